import SynthVerif.F32.Basic
import SynthVerif.Gen.Consts
import SynthVerif.Gen.Tables
import SynthVerif.Gen.Shapes
import SynthVerif.Model.PhaseAcc
import SynthVerif.Model.Adsr
import SynthVerif.Model.Lfo
import SynthVerif.Model.Quantizer
import SynthVerif.Model.Midi
import SynthVerif.Model.MidiEv
import SynthVerif.Model.Glide
import SynthVerif.Model.Ribbon
import SynthVerif.Props.C01
import SynthVerif.Props.C02
import SynthVerif.Props.C02Timing
import SynthVerif.Props.C03
import SynthVerif.Props.C03Boundary
import SynthVerif.Props.ExpLemmas
import SynthVerif.Props.C01Fidelity
import SynthVerif.Props.C03Sustain
import SynthVerif.Props.C04
import SynthVerif.Props.C05
import SynthVerif.Props.C06
import SynthVerif.Props.C07
import SynthVerif.Props.C08
import SynthVerif.Props.C09
import SynthVerif.Props.C10
import SynthVerif.Props.C11
import SynthVerif.Props.C12
import SynthVerif.Props.C10Sine
import SynthVerif.Props.C12Pi
import SynthVerif.Props.C13
import SynthVerif.Props.C13Range
import SynthVerif.Props.Compound
import SynthVerif.Props.C14
import SynthVerif.Props.C14Coverage
import SynthVerif.Props.C15
import SynthVerif.Props.C16
import SynthVerif.Props.C16Bounds
import SynthVerif.Props.C17
import SynthVerif.Props.C18
import SynthVerif.Props.C19
import SynthVerif.Props.C19Bounds
import SynthVerif.Props.C09Noise
import SynthVerif.Props.C09Ramp
import SynthVerif.Props.C20
import SynthVerif.Props.Interp
import SynthVerif.Props.MidiLemmas
import SynthVerif.Props.PhaseLemmas
import SynthVerif.Props.QuantLemmas
import SynthVerif.AuditTool
import SynthVerif.Shape.Adsr
import SynthVerif.Shape.Lfo
import SynthVerif.Shape.Midi
import SynthVerif.Shape.Quant
import SynthVerif.Shape.Glide
import SynthVerif.Shape.Ribbon
