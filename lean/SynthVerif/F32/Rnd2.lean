import SynthVerif.F32.Ops
/-!
More rounding lemmas: relative error, closure of representable numbers under the scalings used by the code,
representability of every rounded value.
-/
namespace F32

private theorem two_ne : (2:ℚ) ≠ 0 := by norm_num
private theorem one_lt_two : (1:ℚ) < 2 := by norm_num
private theorem tp (k : ℤ) : (0:ℚ) < 2 ^ k := by positivity

/-- relative error of one rounding for values in the normal range: half an ulp, at most 2^-24 |x| -/
theorem rnd_rel_err {x : ℚ} (hx : 2 ^ (-126:ℤ) ≤ |x|) : |rnd x - x| ≤ 2 ^ (-24:ℤ) * |x| := by
  have hx0 : x ≠ 0 := by
    intro h; rw [h, abs_zero] at hx; exact absurd hx (not_le.mpr (tp _))
  have hl : -126 ≤ ilog2 x := le_ilog2_of_le_abs hx0 hx
  have he : expo x = ilog2 x - 23 := by rw [expo_def]; omega
  have hs := (ilog2_spec hx0).1
  rw [pow2_eq] at hs
  calc |rnd x - x| ≤ 2 ^ (expo x) / 2 := rnd_sub_le x hx0
    _ = 2 ^ (-24:ℤ) * 2 ^ (ilog2 x) := by
        rw [he, show ilog2 x - 23 = ilog2 x + (-23) by ring, zpow_add₀ two_ne]
        norm_num; ring
    _ ≤ 2 ^ (-24:ℤ) * |x| := mul_le_mul_of_nonneg_left hs (le_of_lt (tp _))

/-- representable numbers are closed under multiplication by a power of two (upward always) -/
theorem rep_mul_pow2 {x : ℚ} (h : Rep x) (k : ℕ) : Rep (x * 2 ^ k) := by
  obtain ⟨m, e, rfl, hm, he⟩ := h
  refine ⟨m, e + k, ?_, hm, by omega⟩
  rw [zpow_add₀ two_ne, zpow_natCast]; ring

/-- … and downward as long as the exponent stays in range -/
theorem rep_div_pow2 {m : ℤ} (hm : |m| < 2 ^ 24) (k : ℕ) (hk : k ≤ 149) : Rep ((m:ℚ) / 2 ^ k) :=
  ⟨m, -(k:ℤ), by rw [zpow_neg, zpow_natCast]; ring, hm, by omega⟩

/-- every rounded value is representable -/
theorem rep_rnd (x : ℚ) : Rep (rnd x) := by
  by_cases hx : x = 0
  · subst hx; rw [rnd_zero]; exact rep_zero
  · rw [rnd_def, if_neg hx, pow2_eq]
    set e := expo x with he
    have hee : -149 ≤ e := by rw [he, expo_def]; exact le_max_right _ _
    have hil : ilog2 x - 23 ≤ e := by rw [he, expo_def]; exact le_max_left _ _
    have hs := (ilog2_spec hx).2
    rw [pow2_eq] at hs
    -- |x / 2^e| < 2^24
    have hq : |x / 2 ^ e| < 2 ^ (24:ℤ) := by
      rw [abs_div, abs_of_pos (tp e), div_lt_iff₀ (tp e), ← zpow_add₀ two_ne]
      exact lt_of_lt_of_le hs (zpow_le_zpow_right₀ (le_of_lt one_lt_two) (by omega))
    -- so the rounded integer is at most 2^24 in magnitude
    have hn : |(rneInt (x / 2 ^ e) : ℚ)| ≤ 2 ^ (24:ℤ) := by
      have h1 := rneInt_mono (le_of_lt (abs_lt.mp hq).2)
      have h2 := rneInt_mono (le_of_lt (abs_lt.mp hq).1)
      have e1 : rneInt ((2:ℚ) ^ (24:ℤ)) = 2 ^ 24 := by
        have : ((2:ℚ) ^ (24:ℤ)) = ((2 ^ 24 : ℤ) : ℚ) := by norm_num
        rw [this, rneInt_intCast]
      have e2 : rneInt (-(2:ℚ) ^ (24:ℤ)) = -(2 ^ 24) := by rw [rneInt_neg, e1]
      rw [e1] at h1; rw [e2] at h2
      rw [abs_le]; constructor
      · have : ((-(2 ^ 24) : ℤ) : ℚ) ≤ (rneInt (x / 2 ^ e) : ℚ) := by exact_mod_cast h2
        norm_num at this ⊢; linarith
      · have : (rneInt (x / 2 ^ e) : ℚ) ≤ ((2 ^ 24 : ℤ) : ℚ) := by exact_mod_cast h1
        norm_num at this ⊢; linarith
    set n := rneInt (x / 2 ^ e) with hndef
    by_cases hlt : |n| < 2 ^ 24
    · exact ⟨n, e, rfl, hlt, hee⟩
    · -- |n| = 2^24: the value is ±2^(e+24)
      have hn' : |n| ≤ 2 ^ 24 := by
        have : |(n:ℚ)| = ((|n| : ℤ) : ℚ) := by push_cast; rfl
        rw [this] at hn
        have : ((|n| : ℤ) : ℚ) ≤ ((2 ^ 24 : ℤ) : ℚ) := by norm_num at hn ⊢; linarith
        exact_mod_cast this
      have heq : |n| = 2 ^ 24 := le_antisymm hn' (not_lt.mp hlt)
      rcases abs_eq (by norm_num : (0:ℤ) ≤ 2 ^ 24) |>.mp heq with h | h
      · refine ⟨1, e + 24, ?_, by norm_num, by omega⟩
        rw [h, zpow_add₀ two_ne]; push_cast; ring
      · refine ⟨-1, e + 24, ?_, by norm_num, by omega⟩
        rw [h, zpow_add₀ two_ne]; push_cast; ring

/-- a difference of binary32 numbers that lies below the normal range is itself a binary32 number
(both are multiples of `2^-149`, and fewer than `2^24` of them are needed) -/
theorem rep_sub_of_small {x y : ℚ} (hx : Rep x) (hy : Rep y) (h : |x - y| < 2 ^ (-125:ℤ)) : Rep (x - y) := by
  obtain ⟨m, e, rfl, -, he⟩ := hx
  obtain ⟨n, k, rfl, -, hk⟩ := hy
  obtain ⟨a, ha⟩ := Int.eq_ofNat_of_zero_le (show 0 ≤ e + 149 by omega)
  obtain ⟨b, hb⟩ := Int.eq_ofNat_of_zero_le (show 0 ≤ k + 149 by omega)
  have e1 : (m:ℚ) * 2 ^ e - n * 2 ^ k = ((m * 2 ^ a - n * 2 ^ b : ℤ) : ℚ) * 2 ^ (-149:ℤ) := by
    rw [show e = a + (-149) by omega, show k = b + (-149) by omega, zpow_add₀ two_ne, zpow_add₀ two_ne,
      zpow_natCast, zpow_natCast]
    push_cast; ring
  refine ⟨m * 2 ^ a - n * 2 ^ b, -149, e1, ?_, le_refl _⟩
  rw [e1, abs_mul, abs_of_pos (tp _), show (2:ℚ) ^ (-125:ℤ) = 2 ^ 24 * 2 ^ (-149:ℤ) by norm_num] at h
  have := lt_of_mul_lt_mul_right h (tp _).le
  rw [show |((m * 2 ^ a - n * 2 ^ b : ℤ) : ℚ)| = ((|m * 2 ^ a - n * 2 ^ b| : ℤ) : ℚ) by push_cast; rfl] at this
  exact_mod_cast this

theorem rnd_idem (x : ℚ) : rnd (rnd x) = rnd x := rnd_rep (rep_rnd x)

/-- absolute error from a magnitude bound given as a plain rational (convenience form of `rnd_err`) -/
theorem rnd_err_le_one {x : ℚ} (h : |x| ≤ 1) : |rnd x - x| ≤ 2 ^ (-24:ℤ) := by
  have := rnd_err (x := x) (k := 1) (by norm_num) (lt_of_le_of_lt h (by norm_num))
  simpa using this

/-- error of one rounding at any magnitude: relative 2^-24 in the normal range, absolute 2^-150 below it -/
theorem rnd_err_gen (x : ℚ) : |rnd x - x| ≤ 2 ^ (-24:ℤ) * |x| + 2 ^ (-150:ℤ) := by
  by_cases h : 2 ^ (-126:ℤ) ≤ |x|
  · have := rnd_rel_err h
    have : (0:ℚ) < 2 ^ (-150:ℤ) := by positivity
    linarith
  · have hlt : |x| < 2 ^ (-125:ℤ) := lt_trans (not_le.mp h) (by norm_num)
    have := rnd_err (x := x) (k := -125) (by norm_num) hlt
    have e : (-125:ℤ) - 25 = -150 := by norm_num
    rw [e] at this
    have : (0:ℚ) ≤ 2 ^ (-24:ℤ) * |x| := by positivity
    linarith

/-- `toU32` of a finite non-negative value below 2^32 is its floor -/
theorem toU32_floor (r : ℚ) (nz : Bool) (h0 : 0 ≤ r) (h1 : r < 2 ^ 32) : ((toU32 (.fin r nz) : ℕ) : ℤ) = ⌊r⌋ := by
  have hneg : ¬ r < 0 := not_lt.mpr h0
  have hfl0 : 0 ≤ ⌊r⌋ := Int.floor_nonneg.mpr h0
  have hfl1 : ⌊r⌋ < 2 ^ 32 := by
    have : (⌊r⌋ : ℚ) ≤ r := Int.floor_le r
    have : (⌊r⌋ : ℚ) < 2 ^ 32 := lt_of_le_of_lt this h1
    exact_mod_cast this
  simp only [toU32, hneg, ↓reduceIte]
  have e : r.floor = ⌊r⌋ := rfl
  rw [e]
  have hnat : (⌊r⌋.toNat : ℤ) = ⌊r⌋ := Int.toNat_of_nonneg hfl0
  have hlt : ¬ (⌊r⌋.toNat ≥ 2 ^ 32) := by omega
  simp only [hlt, ↓reduceIte]
  exact hnat

end F32
