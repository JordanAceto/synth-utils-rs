import SynthVerif.Props.C11
/-!
# C12 — LFO sine and triangle are continuous, including across the cycle wrap

`k` = number of phase-counter steps between two reads (a tick advances by `inc`, modulo 2^24; `C11.tick_advance`).
* `triangle_step`: |Δtriangle| ≤ 4·k/2^24 — exactly, wrap included (the triangle values are exact, C10).
* `sine_step`: |Δsine| ≤ (1024·D)·k/2^24 + 2^-23 + 2^-30, with `D` the kernel-checked bound on the height of every table
  cell *including the cell that wraps from the last entry back to the first*; `1024·D = 6.295552 ≤ 2π·1.002`
  (`C12Pi.slope_le`), and `2^-23 + 2^-30 < 2·2^-23` = two f32 ulps.  The sine is the rounded image of a continuous
  piecewise-linear interpolant: no staircase, no glitch at the wrap.
-/
namespace C12
open F32

/-! ### triangle -/

/-- the exact triangle wave as a function of the phase counter -/
def tri (a : ℕ) : ℚ :=
  if a < 2 ^ 22 then 4 * ((a:ℚ) / 2 ^ 24) else if a < 3 * 2 ^ 22 then 2 - 4 * ((a:ℚ) / 2 ^ 24) else 4 * ((a:ℚ) / 2 ^ 24) - 4

theorem tri_is_triangle (l : Lfo) (h : C10.Ok l) : (l.get .triangle).val = tri l.pa.acc :=
  (C10.triangle_exact l h).2

theorem tri_adjacent (a : ℕ) (ha : a < 2 ^ 24) : |tri ((a + 1) % 2 ^ 24) - tri a| ≤ 4 / 2 ^ 24 := by
  have h24 : (2:ℚ) ^ 24 = 16777216 := by norm_num
  by_cases hw : a + 1 = 2 ^ 24
  · -- the wrap
    have : (a + 1) % 2 ^ 24 = 0 := by rw [hw]; simp
    rw [this]
    have ha' : a = 2 ^ 24 - 1 := by omega
    subst ha'
    simp only [tri]; norm_num
  · have hlt : a + 1 < 2 ^ 24 := by omega
    rw [Nat.mod_eq_of_lt hlt]
    have hc : ((a + 1 : ℕ) : ℚ) = (a:ℚ) + 1 := by push_cast; ring
    simp only [tri, hc, h24]
    have q0 : (0:ℚ) ≤ a := by positivity
    by_cases c1 : a + 1 < 2 ^ 22
    · have c1' : a < 2 ^ 22 := by omega
      simp only [c1, c1', ↓reduceIte]
      rw [abs_le]; constructor <;> (ring_nf; norm_num)
    · by_cases c1' : a < 2 ^ 22
      · have ha : a = 2 ^ 22 - 1 := by omega
        have c3 : a + 1 < 3 * 2 ^ 22 := by omega
        simp only [c1, c1', c3, ↓reduceIte]
        subst ha; norm_num
      · by_cases c3 : a + 1 < 3 * 2 ^ 22
        · have c3' : a < 3 * 2 ^ 22 := by omega
          simp only [c1, c1', c3, c3', ↓reduceIte]
          rw [abs_le]; constructor <;> (ring_nf; norm_num)
        · by_cases c3' : a < 3 * 2 ^ 22
          · have ha : a = 3 * 2 ^ 22 - 1 := by omega
            simp only [c1, c1', c3, c3', ↓reduceIte]
            subst ha; norm_num
          · simp only [c1, c1', c3, c3', ↓reduceIte]
            rw [abs_le]; constructor <;> (ring_nf; norm_num)

/-- **triangle**: moving the phase counter by `k` steps (wrapping allowed) changes the triangle by at most 4·k/2^24 -/
theorem triangle_step (l l' : Lfo) (h : C10.Ok l) (h' : C10.Ok l') (k : ℕ)
    (hk : l'.pa.acc = (l.pa.acc + k) % 2 ^ 24) :
    |(l'.get .triangle).val - (l.get .triangle).val| ≤ 4 * (k:ℚ) / 2 ^ 24 := by
  rw [tri_is_triangle l h, tri_is_triangle l' h', hk]
  have := circle_lipschitz (2 ^ 24) (by norm_num) tri (4 / 2 ^ 24) tri_adjacent l.pa.acc k h.acc
  calc |tri ((l.pa.acc + k) % 2 ^ 24) - tri l.pa.acc| ≤ k * (4 / 2 ^ 24) := this
    _ = 4 * (k:ℚ) / 2 ^ 24 := by ring

/-! ### sine -/

/-- bound on the height of one table cell: 1024·D = 6.295552 -/
def D : ℚ := 6148 / 1000000

/-- table entries as rationals -/
def Tq (i : ℕ) : ℚ := (ofBits (Gen.sineBitsL.getD i 0)).val
def nxt (i : ℕ) : ℕ := (i + 1) % 1024

theorem Tq_eq : (fun i => (sineAt i).val) = Tq := funext fun i => by rw [C10.sineAt_eq]; rfl

theorem cell_height (i : ℕ) (hi : i < 1024) : |Tq (nxt i) - Tq i| ≤ D := by
  have := (C10.sine_cell i hi).2.2
  rwa [congrFun Tq_eq, congrFun Tq_eq] at this

/-- the continuous piecewise-linear curve the sine output is sampled from -/
def L (a : ℕ) : ℚ := idealInterp Tq nxt a

theorem L_adjacent (a : ℕ) (ha : a < 2 ^ 24) : |L ((a + 1) % 2 ^ 24) - L a| ≤ D / 2 ^ 14 := by
  unfold L
  rw [idealInterp_succ Tq nxt a ((a + 1) % 2 ^ 24) (by unfold nxt; split <;> omega), abs_div,
    abs_of_pos (by positivity : (0:ℚ) < 2 ^ 14)]
  exact div_le_div_of_nonneg_right (cell_height _ (by omega)) (by positivity)

/-- the rounded sample is within 2^-24 + 2^-30 of the ideal curve -/
theorem sine_near_L (l : Lfo) (h : C10.Ok l) : |(l.get .sine).val - L l.pa.acc| ≤ 2 ^ (-24:ℤ) + 2 ^ (-30:ℤ) := by
  have hi : l.pa.acc / 2 ^ 14 < 1024 := by have := h.acc; omega
  have h0 := (C10.sine_entry _ hi).2
  rw [(C10.sine_val l h).2, Tq_eq]
  rw [congrFun Tq_eq] at h0
  exact readQ_near h0 (cell_height _ hi) (by unfold D; norm_num)

/-- **sine**: moving the phase counter by `k` steps (wrapping allowed) changes the sine by at most
`1024·D·k/2^24` plus two roundings -/
theorem sine_step (l l' : Lfo) (h : C10.Ok l) (h' : C10.Ok l') (k : ℕ)
    (hk : l'.pa.acc = (l.pa.acc + k) % 2 ^ 24) :
    |(l'.get .sine).val - (l.get .sine).val| ≤ (1024 * D) * (k:ℚ) / 2 ^ 24 + (2 ^ (-23:ℤ) + 2 ^ (-29:ℤ)) := by
  have n1 := sine_near_L l h
  have n2 := sine_near_L l' h'
  have lip := circle_lipschitz (2 ^ 24) (by norm_num) L (D / 2 ^ 14) L_adjacent l.pa.acc k h.acc
  rw [← hk] at lip
  have split : (l'.get .sine).val - (l.get .sine).val =
      ((l'.get .sine).val - L l'.pa.acc) + (L l'.pa.acc - L l.pa.acc) - ((l.get .sine).val - L l.pa.acc) := by ring
  rw [split]
  have t1 := abs_sub ((l'.get .sine).val - L l'.pa.acc + (L l'.pa.acc - L l.pa.acc)) ((l.get .sine).val - L l.pa.acc)
  have t2 := abs_add_le ((l'.get .sine).val - L l'.pa.acc) (L l'.pa.acc - L l.pa.acc)
  have e : (k:ℚ) * (D / 2 ^ 14) = (1024 * D) * (k:ℚ) / 2 ^ 24 := by norm_num; ring
  have num : (2:ℚ) ^ (-24:ℤ) + 2 ^ (-30:ℤ) + (2 ^ (-24:ℤ) + 2 ^ (-30:ℤ)) = 2 ^ (-23:ℤ) + 2 ^ (-29:ℤ) := by norm_num
  rw [← e, ← num]
  generalize (2:ℚ) ^ (-24:ℤ) = ε at *
  generalize (2:ℚ) ^ (-30:ℤ) = δ at *
  linarith

/-- the slope constant and the rounding slack in the units of the property text -/
theorem constants : 1024 * D = 6.295552 ∧ (2:ℚ) ^ (-23:ℤ) + 2 ^ (-29:ℤ) ≤ 2 * 2 ^ (-23:ℤ) := by
  unfold D; norm_num

/-- a tick of the oscillator is such a move with `k = inc` -/
theorem tick_moves (l l' : Lfo) (h : C10.Ok l) (ht : l.tick = some l') :
    l'.pa.acc = (l.pa.acc + l.pa.inc) % 2 ^ 24 := by
  have := (C11.tick_advance l l' ht).1
  rwa [h.tb] at this

end C12
