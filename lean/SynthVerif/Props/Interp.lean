import SynthVerif.Props.PhaseLemmas
/-!
Table look-up with linear interpolation (`utils::linear_interp`), for every table of the crate at once.

* Values decoded from bit patterns are binary32 numbers (`ofBits_rep`).
* `interpQ y0 y1 f`, the rounded sample inside the cell `(y0, y1)`: monotone in the fraction (op-monotonicity, P3 of
  DESIGN.md), never outside the cell for a fraction the 14-bit in-cell counter can produce (`interpQ_within`: an
  argument about the three roundings, so no table has to be swept for it), and within `2^-24 + 2^-30` of the
  unrounded chord (`interpQ_near`).
* `readQ T nxt a`, the sample at phase position `a` of a 1024-entry table `T` whose cell `i` ends in entry `nxt i`
  (clamped for the envelope tables, wrapping for the sine table), is what `PhaseAcc` + `linear_interp` compute
  (`PhaseAcc.read_val`); `idealInterp T nxt` is its unrounded counterpart, and a function that moves by at most `c`
  per counter step moves by at most `k·c` over `k` steps (`steps_lipschitz`, `circle_lipschitz`).
* `allPairs` lifts a kernel-evaluated check over the adjacent entries of a table to an indexed statement.
-/
namespace F32

private theorem signed_rep (mag : ℚ) (sg : Bool) (h : Rep mag) :
    Rep (if (mag == 0) = true then F32.fin 0 sg else F32.fin (if sg = true then -mag else mag) false).val := by
  split
  · exact rep_zero
  · rw [val_fin]; split
    · exact rep_neg h
    · exact h

/-- every finite value decoded from a bit pattern is a binary32 number -/
theorem ofBits_rep (b : ℕ) : Rep (ofBits b).val := by
  have hm : b % 2 ^ 23 < 2 ^ 23 := Nat.mod_lt _ (by norm_num)
  -- magnitude is representable in both branches
  have hmag : Rep (if (b / 2 ^ 23 % 256 == 0) = true then (((b % 2 ^ 23 : ℕ) : ℤ) : ℚ) * pow2 (-149)
      else ((((b % 2 ^ 23 + 2 ^ 23 : ℕ)) : ℤ) : ℚ) * pow2 (((b / 2 ^ 23 % 256 : ℕ) : ℤ) - 150)) := by
    split
    · refine ⟨((b % 2 ^ 23 : ℕ) : ℤ), -149, by rw [pow2_eq], ?_, le_refl _⟩
      rw [abs_of_nonneg (by positivity)]; exact_mod_cast lt_trans hm (by norm_num)
    · rename_i h0
      have h0' : b / 2 ^ 23 % 256 ≠ 0 := by simpa using h0
      refine ⟨((b % 2 ^ 23 + 2 ^ 23 : ℕ) : ℤ), ((b / 2 ^ 23 % 256 : ℕ) : ℤ) - 150, by rw [pow2_eq], ?_, by omega⟩
      rw [abs_of_nonneg (by positivity)]
      have : b % 2 ^ 23 + 2 ^ 23 < 2 ^ 24 := by omega
      exact_mod_cast this
  unfold ofBits
  dsimp only
  by_cases he : (b / 2 ^ 23 % 256 == 255) = true
  · rw [if_pos he]
    by_cases hm0 : (b % 2 ^ 23 == 0) = true
    · rw [if_pos hm0]; exact rep_zero
    · rw [if_neg hm0]; exact rep_zero
  · rw [if_neg he]
    exact signed_rep _ _ hmag

theorem ofBits_rnd (b : ℕ) : rnd (ofBits b).val = (ofBits b).val := rnd_rep (ofBits_rep b)

/-- `lt` on finite values compares the rational values -/
theorem lt_val {x y : F32} (hx : x.isFin = true) (hy : y.isFin = true) : lt x y = decide (x.val < y.val) := by
  cases x <;> cases y <;> simp_all [lt]
  exact decide_eq_decide.mpr Iff.rfl

theorem le_val {x y : F32} (hx : x.isFin = true) (hy : y.isFin = true) : le x y = decide (x.val ≤ y.val) := by
  cases x <;> cases y <;> simp_all [le]
  exact decide_eq_decide.mpr Iff.rfl

/-- scaling a rounded non-negative number by a factor of at most `1 − 2^-14` and rounding again cannot pass the
unrounded number: the factor swallows the two relative errors of `2^-24` -/
theorem rnd_rnd_mul_le {d f : ℚ} (hd : 0 ≤ d) (hr : Rep d ∨ 2 ^ (-125:ℤ) ≤ d) (hf0 : 0 ≤ f)
    (hf : f ≤ 1 - 2 ^ (-14:ℤ)) : rnd (rnd d * f) ≤ d := by
  rcases hr with hr | hr
  · rw [rnd_rep hr]; exact rnd_le_of_le (mul_le_of_le_one_right hd (hf.trans (by norm_num))) hr
  · have e1 := (abs_le.mp (rnd_rel_err (x := d) (by rw [abs_of_nonneg hd]; exact le_trans (by norm_num) hr))).2
    rw [abs_of_nonneg hd] at e1
    rcases lt_or_ge (rnd d * f) (2 ^ (-126:ℤ)) with hs | hs
    · exact (rnd_le_of_le hs.le (rep_pow2 (by norm_num))).trans (le_trans (by norm_num) hr)
    · have hx : 0 ≤ rnd d * f := mul_nonneg (rnd_nonneg hd) hf0
      have e2 := (abs_le.mp (rnd_rel_err (x := rnd d * f) (by rwa [abs_of_nonneg hx]))).2
      rw [abs_of_nonneg hx] at e2
      calc rnd (rnd d * f) ≤ (1 + 2 ^ (-24:ℤ)) * (rnd d * f) := by linarith
        _ ≤ (1 + 2 ^ (-24:ℤ)) * ((1 + 2 ^ (-24:ℤ)) * d * (1 - 2 ^ (-14:ℤ))) :=
            mul_le_mul_of_nonneg_left (mul_le_mul (by linarith) hf hf0 (by positivity)) (by norm_num)
        _ = ((1 + 2 ^ (-24:ℤ)) ^ 2 * (1 - 2 ^ (-14:ℤ))) * d := by ring
        _ ≤ d := mul_le_of_le_one_left hd (by norm_num)

end F32

open F32

/-- the value `linear_interp` produces, in terms of rational values and `rnd` -/
theorem linearInterp_val {y0 y1 f : F32} (h0 : y0.isFin = true) (h1 : y1.isFin = true) (hf : f.isFin = true)
    (b0 : |y0.val| ≤ 2) (b1 : |y1.val| ≤ 2) (bf0 : 0 ≤ f.val) (bf1 : f.val ≤ 1) :
    (linearInterp y0 y1 f).isFin = true ∧
    (linearInterp y0 y1 f).val = rnd (y0.val + rnd (rnd (y1.val - y0.val) * f.val)) := by
  have hd : |y1.val - y0.val| ≤ 4 := by
    have := abs_sub y1.val y0.val; linarith
  obtain ⟨s1, s2⟩ := val_sub h1 h0 (le_trans hd (by norm_num))
  have hdr : |rnd (y1.val - y0.val)| ≤ 4 := abs_rnd_le hd (by simpa using rep_int (n := 4) (by norm_num))
  have hm : |rnd (y1.val - y0.val) * f.val| ≤ 4 := by
    rw [abs_mul, abs_of_nonneg bf0]
    calc |rnd (y1.val - y0.val)| * f.val ≤ 4 * 1 := mul_le_mul hdr bf1 bf0 (by norm_num)
      _ = 4 := by norm_num
  obtain ⟨m1, m2⟩ := val_mul (x := sub y1 y0) (y := f) s1 hf (by rw [s2]; exact le_trans hm (by norm_num))
  rw [s2] at m2
  have hmr : |rnd (rnd (y1.val - y0.val) * f.val)| ≤ 4 := abs_rnd_le hm (by simpa using rep_int (n := 4) (by norm_num))
  have ha : |y0.val + rnd (rnd (y1.val - y0.val) * f.val)| ≤ 2 ^ (127:ℤ) := by
    have := abs_add_le y0.val (rnd (rnd (y1.val - y0.val) * f.val))
    have : |y0.val + rnd (rnd (y1.val - y0.val) * f.val)| ≤ 6 := by linarith
    exact le_trans this (by norm_num)
  obtain ⟨a1, a2⟩ := val_add (x := y0) (y := mul (sub y1 y0) f) h0 m1 (by rw [m2]; exact ha)
  rw [m2] at a2
  exact ⟨a1, a2⟩

/-- the interpolation formula on rationals -/
def interpQ (y0 y1 f : ℚ) : ℚ := rnd (y0 + rnd (rnd (y1 - y0) * f))

/-- monotone in the fraction when the cell rises, antitone when it falls (rounded arithmetic included) -/
theorem interpQ_mono {y0 y1 f g : ℚ} (hfg : f ≤ g) :
    (0 ≤ rnd (y1 - y0) → interpQ y0 y1 f ≤ interpQ y0 y1 g) ∧
    (rnd (y1 - y0) ≤ 0 → interpQ y0 y1 g ≤ interpQ y0 y1 f) := by
  unfold interpQ
  constructor
  · intro hd
    apply rnd_mono
    have := rnd_mono (mul_le_mul_of_nonneg_left hfg hd)
    linarith
  · intro hd
    apply rnd_mono
    have := rnd_mono (mul_le_mul_of_nonpos_left hfg hd)
    linarith

/-- at fraction 0 the sample is the table entry itself (for a representable entry) -/
theorem interpQ_zero {y0 y1 : ℚ} (h : rnd y0 = y0) : interpQ y0 y1 0 = y0 := by
  unfold interpQ; simp [rnd_zero, h]

/-- a flat cell returns its entry at every fraction -/
theorem interpQ_self {y : ℚ} (h : rnd y = y) (f : ℚ) : interpQ y y f = y := by
  unfold interpQ; simp [rnd_zero, h]

theorem interpQ_neg (y0 y1 f : ℚ) : interpQ (-y0) (-y1) f = -interpQ y0 y1 f := by
  unfold interpQ
  rw [show -y1 - -y0 = -(y1 - y0) by ring, rnd_neg, neg_mul, rnd_neg, ← neg_add, rnd_neg]

/-- **the sample never leaves its cell**: for binary32 entries and every fraction up to `1 − 2^-14` — the largest the
in-cell counter produces — the rounded sample lies between the two entries.  (At fraction 1 this can fail by an ulp.) -/
theorem interpQ_within {y0 y1 f : ℚ} (h0 : Rep y0) (h1 : Rep y1) (hf0 : 0 ≤ f) (hf : f ≤ 1 - 2 ^ (-14:ℤ)) :
    min y0 y1 ≤ interpQ y0 y1 f ∧ interpQ y0 y1 f ≤ max y0 y1 := by
  -- rising cell; a falling one is its mirror image
  have up : ∀ {y0 y1 : ℚ}, Rep y0 → Rep y1 → y0 ≤ y1 → y0 ≤ interpQ y0 y1 f ∧ interpQ y0 y1 f ≤ y1 := by
    intro y0 y1 h0 h1 h
    have hd : 0 ≤ y1 - y0 := sub_nonneg.mpr h
    have hr : Rep (y1 - y0) ∨ 2 ^ (-125:ℤ) ≤ y1 - y0 :=
      (lt_or_ge (y1 - y0) (2 ^ (-125:ℤ))).imp (fun hs => rep_sub_of_small h1 h0 (by rwa [abs_of_nonneg hd])) id
    have hp := rnd_rnd_mul_le hd hr hf0 hf
    have hp0 : 0 ≤ rnd (rnd (y1 - y0) * f) := rnd_nonneg (mul_nonneg (rnd_nonneg hd) hf0)
    exact ⟨le_rnd_of_le (by linarith) h0, rnd_le_of_le (by linarith) h1⟩
  rcases le_total y0 y1 with h | h
  · rw [min_eq_left h, max_eq_right h]; exact up h0 h1 h
  · have := up (rep_neg h0) (rep_neg h1) (neg_le_neg h)
    rw [interpQ_neg] at this
    rw [min_eq_right h, max_eq_left h]; constructor <;> linarith [this.1, this.2]

/-- the three roundings of a sample in a cell of height below `2^-7` with `|y0| ≤ 1` cost `2^-24 + 2^-30` against
the unrounded chord -/
theorem interpQ_near {y0 y1 f D : ℚ} (h0 : |y0| ≤ 1) (hh : |y1 - y0| ≤ D) (hD : D < 2 ^ (-7:ℤ))
    (f0 : 0 ≤ f) (f1 : f ≤ 1) : |interpQ y0 y1 f - (y0 + (y1 - y0) * f)| ≤ 2 ^ (-24:ℤ) + 2 ^ (-30:ℤ) := by
  unfold interpQ
  set d := y1 - y0
  have hdD := lt_of_le_of_lt hh hD
  have e1 : |rnd d - d| ≤ 2 ^ (-32:ℤ) := by simpa using rnd_err (x := d) (k := -7) (by norm_num) hdD
  have hprod : |rnd d * f| ≤ 2 ^ (-7:ℤ) := by
    rw [abs_mul, abs_of_nonneg f0]
    exact (mul_le_of_le_one_right (abs_nonneg _) f1).trans (abs_rnd_le hdD.le (rep_pow2 (by norm_num)))
  have e2 : |rnd (rnd d * f) - rnd d * f| ≤ 2 ^ (-31:ℤ) := by
    simpa using rnd_err (x := rnd d * f) (k := -6) (by norm_num) (lt_of_le_of_lt hprod (by norm_num))
  have hp2 : |rnd (rnd d * f)| ≤ 2 ^ (-7:ℤ) := abs_rnd_le hprod (rep_pow2 (by norm_num))
  have e3 : |rnd (y0 + rnd (rnd d * f)) - (y0 + rnd (rnd d * f))| ≤ 2 ^ (-24:ℤ) := by
    have := rnd_err (x := y0 + rnd (rnd d * f)) (k := 1) (by norm_num)
      (lt_of_le_of_lt (abs_add_le _ _) (by norm_num at hp2 ⊢; linarith))
    simpa using this
  have e1' : |(rnd d - d) * f| ≤ 2 ^ (-32:ℤ) := by
    rw [abs_mul, abs_of_nonneg f0]
    exact (mul_le_of_le_one_right (abs_nonneg _) f1).trans e1
  rw [show rnd (y0 + rnd (rnd d * f)) - (y0 + d * f) =
      (rnd (y0 + rnd (rnd d * f)) - (y0 + rnd (rnd d * f))) + (rnd (rnd d * f) - rnd d * f) + (rnd d - d) * f by ring]
  have t := abs_add_three (rnd (y0 + rnd (rnd d * f)) - (y0 + rnd (rnd d * f))) (rnd (rnd d * f) - rnd d * f)
    ((rnd d - d) * f)
  have num : (2:ℚ) ^ (-31:ℤ) + 2 ^ (-32:ℤ) ≤ 2 ^ (-30:ℤ) := by norm_num
  linarith

/-! ### reading a 1024-entry table along the 24-bit phase -/

/-- the in-cell fraction of a phase position: at least 0 and at most `1 − 2^-14` -/
theorem frac_range (a : ℕ) :
    (0:ℚ) ≤ ((a % 2 ^ 14 : ℕ) : ℚ) / 2 ^ 14 ∧ ((a % 2 ^ 14 : ℕ) : ℚ) / 2 ^ 14 ≤ 1 - 2 ^ (-14:ℤ) := by
  refine ⟨by positivity, ?_⟩
  rw [div_le_iff₀ (by positivity)]
  have : ((a % 2 ^ 14 : ℕ) : ℚ) + 1 ≤ 2 ^ 14 := by exact_mod_cast Nat.mod_lt a (by norm_num : 0 < 2 ^ 14)
  linarith [show (1 - (2:ℚ) ^ (-14:ℤ)) * 2 ^ 14 = 2 ^ 14 - 1 by norm_num]

/-- the rounded sample at phase position `a` of table `T`; `nxt i` is the entry cell `i` interpolates towards -/
def readQ (T : ℕ → ℚ) (nxt : ℕ → ℕ) (a : ℕ) : ℚ :=
  interpQ (T (a / 2 ^ 14)) (T (nxt (a / 2 ^ 14))) (((a % 2 ^ 14 : ℕ) : ℚ) / 2 ^ 14)

theorem readQ_within {T : ℕ → ℚ} (hT : ∀ i, Rep (T i)) (nxt : ℕ → ℕ) (a : ℕ) :
    min (T (a / 2 ^ 14)) (T (nxt (a / 2 ^ 14))) ≤ readQ T nxt a ∧
    readQ T nxt a ≤ max (T (a / 2 ^ 14)) (T (nxt (a / 2 ^ 14))) :=
  interpQ_within (hT _) (hT _) (frac_range a).1 (frac_range a).2

/-- what `linear_interp(table[index], table[nxt index], fraction)` computes on a 24/10-bit accumulator -/
theorem PhaseAcc.read_val (p : PhaseAcc) (htb : p.totalBits = 24) (hib : p.indexBits = 10) (tbl : ℕ → F32) (nxt : ℕ → ℕ)
    (h0 : (tbl p.index).isFin = true ∧ |(tbl p.index).val| ≤ 2)
    (h1 : (tbl (nxt p.index)).isFin = true ∧ |(tbl (nxt p.index)).val| ≤ 2) :
    (linearInterp (tbl p.index) (tbl (nxt p.index)) p.fraction).isFin = true ∧
    (linearInterp (tbl p.index) (tbl (nxt p.index)) p.fraction).val = readQ (fun i => (tbl i).val) nxt p.acc := by
  obtain ⟨f1, f2⟩ := p.fraction_exact htb hib
  obtain ⟨fr0, fr1⟩ := frac_range p.acc
  obtain ⟨v1, v2⟩ := linearInterp_val h0.1 h1.1 f1 h0.2 h1.2 (by rw [f2]; exact fr0)
    (by rw [f2]; exact fr1.trans (by norm_num))
  refine ⟨v1, ?_⟩
  rw [v2, f2]
  unfold readQ interpQ PhaseAcc.index
  rw [htb, hib]

/-! ### lifting a check over all cells of a table -/

/-- check `P` on all adjacent pairs of a list (kernel-friendly recursion, no random access) -/
def allPairs (P : ℕ → ℕ → Bool) : List ℕ → Bool
  | a :: b :: rest => P a b && allPairs P (b :: rest)
  | _ => true

theorem allPairs_get (P : ℕ → ℕ → Bool) (l : List ℕ) (h : allPairs P l = true) (i : ℕ) (hi : i + 1 < l.length) :
    P (l.getD i 0) (l.getD (i + 1) 0) = true := by
  induction l generalizing i with
  | nil => simp at hi
  | cons a t ih =>
    cases t with
    | nil => simp at hi
    | cons b rest =>
      simp only [allPairs, Bool.and_eq_true] at h
      cases i with
      | zero => simpa using h.1
      | succ j =>
        have := ih h.2 j (by simpa using hi)
        simpa using this

/-- check `P` on every element -/
theorem all_get (P : ℕ → Bool) (l : List ℕ) (h : l.all P = true) (i : ℕ) (hi : i < l.length) :
    P (l.getD i 0) = true := by
  rw [List.all_eq_true] at h
  have : l.getD i 0 = l[i] := by simp [List.getD, hi]
  rw [this]; exact h _ (List.getElem_mem hi)

/-! ### the unrounded interpolant and Lipschitz bounds along the phase -/

/-- a sequence whose consecutive terms differ by at most `c` moves by at most `k·c` over `k` steps -/
theorem steps_lipschitz (g : ℕ → ℚ) (c : ℚ) (k : ℕ) (h : ∀ j, j < k → |g (j + 1) - g j| ≤ c) :
    |g k - g 0| ≤ k * c := by
  induction k with
  | zero => simp
  | succ k ih =>
    have := abs_sub_le (g (k + 1)) (g k) (g 0)
    have := h k (by omega)
    have := ih fun j hj => h j (by omega)
    push_cast; linarith

/-- … in particular a function on the residues mod `N`, wrapping included (used for C12) -/
theorem circle_lipschitz (N : ℕ) (hN : 0 < N) (f : ℕ → ℚ) (c : ℚ)
    (hadj : ∀ a, a < N → |f ((a + 1) % N) - f a| ≤ c) (a k : ℕ) (ha : a < N) :
    |f ((a + k) % N) - f a| ≤ k * c := by
  have := steps_lipschitz (fun j => f ((a + j) % N)) c k fun j _ => by
    have := hadj ((a + j) % N) (Nat.mod_lt _ hN)
    rwa [Nat.mod_add_mod] at this
  simpa [Nat.mod_eq_of_lt ha] using this

/-- the ideal (unrounded) piecewise-linear interpolant of a 1024-entry table on the 2^24 phase circle;
`nxt i` is the index of the entry interpolated towards -/
def idealInterp (T : ℕ → ℚ) (nxt : ℕ → ℕ) (a : ℕ) : ℚ :=
  T (a / 2 ^ 14) + (T (nxt (a / 2 ^ 14)) - T (a / 2 ^ 14)) * ((a % 2 ^ 14 : ℕ) : ℚ) / 2 ^ 14

/-- one counter step `a → a'` moves the ideal interpolant by exactly one 2^-14-th of the height of the cell of `a`,
whether `a'` is the next position inside the cell or the first position of the cell `nxt` names -/
theorem idealInterp_succ (T : ℕ → ℚ) (nxt : ℕ → ℕ) (a a' : ℕ)
    (h : if a % 2 ^ 14 = 2 ^ 14 - 1 then a' / 2 ^ 14 = nxt (a / 2 ^ 14) ∧ a' % 2 ^ 14 = 0
         else a' / 2 ^ 14 = a / 2 ^ 14 ∧ a' % 2 ^ 14 = a % 2 ^ 14 + 1) :
    idealInterp T nxt a' - idealInterp T nxt a = (T (nxt (a / 2 ^ 14)) - T (a / 2 ^ 14)) / 2 ^ 14 := by
  unfold idealInterp
  split at h <;> rename_i hb
  · rw [h.1, h.2, hb]; push_cast; ring
  · rw [h.1, h.2]; push_cast; ring

/-- adjacent phase-counter values inside the table (no wrap): the ideal interpolant moves by exactly one
2^-14-th of the cell height, also across a cell boundary -/
theorem idealInterp_adjacent (T : ℕ → ℚ) (a : ℕ) :
    idealInterp T (· + 1) (a + 1) - idealInterp T (· + 1) a = (T (a / 2 ^ 14 + 1) - T (a / 2 ^ 14)) / 2 ^ 14 :=
  idealInterp_succ T (· + 1) a (a + 1) (by split <;> omega)

/-- the rounded sample is within `2^-24 + 2^-30` of the ideal interpolant, in a cell of height below `2^-7` -/
theorem readQ_near {T : ℕ → ℚ} {nxt : ℕ → ℕ} {D : ℚ} {a : ℕ} (h0 : |T (a / 2 ^ 14)| ≤ 1)
    (hh : |T (nxt (a / 2 ^ 14)) - T (a / 2 ^ 14)| ≤ D) (hD : D < 2 ^ (-7:ℤ)) :
    |readQ T nxt a - idealInterp T nxt a| ≤ 2 ^ (-24:ℤ) + 2 ^ (-30:ℤ) := by
  have := interpQ_near h0 hh hD (frac_range a).1 ((frac_range a).2.trans (by norm_num))
  rwa [mul_div_assoc'] at this
