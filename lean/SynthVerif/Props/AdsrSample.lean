import SynthVerif.Props.Interp
/-!
The interpolated table sample as a function of the 24-bit phase counter: inside the range of the table and monotone
over the whole phase (non-decreasing for the attack table, non-increasing for the decay table) at every one of the
2^24 positions.  Inside a cell this is op-monotonicity in the in-cell fraction (P3 of DESIGN.md), across cells it
is `interpQ_within`; what is left to the kernel is that the generated tables (regenerated from the compiled crate
on every run) are sorted lists of finite numbers running from 0 to 1, resp. from 1 to 0.
-/
namespace AdsrTab
open F32

/-- the sample at phase position `acc` for a table `T` (as rationals), next index clamped at the end -/
def sampleQ (T : ℕ → ℚ) (acc : ℕ) : ℚ :=
  interpQ (T (acc / 2 ^ 14)) (T (min (acc / 2 ^ 14 + 1) 1023)) (((acc % 2 ^ 14 : ℕ) : ℚ) / 2 ^ 14)

/-- a falling table is read like the rising table of its negated entries -/
theorem sampleQ_neg (T : ℕ → ℚ) (a : ℕ) : sampleQ (fun i => -T i) a = -sampleQ T a := interpQ_neg _ _ _

section rising
variable {T : ℕ → ℚ} (hrep : ∀ i, Rep (T i)) (hup : ∀ i, i < 1023 → T i ≤ T (i + 1))
include hup

theorem table_mono (i j : ℕ) (hij : i ≤ j) (hj : j ≤ 1023) : T i ≤ T j := by
  induction j, hij using Nat.le_induction with
  | base => rfl
  | succ j _ ih => exact (ih (by omega)).trans (hup j (by omega))

include hrep

/-- the sample lies between the entries of its cell -/
theorem sample_cell (a : ℕ) (ha : a < 2 ^ 24) :
    T (a / 2 ^ 14) ≤ sampleQ T a ∧ sampleQ T a ≤ T (min (a / 2 ^ 14 + 1) 1023) := by
  have := readQ_within hrep (fun i => min (i + 1) 1023) a
  have hc := table_mono hup (a / 2 ^ 14) (min (a / 2 ^ 14 + 1) 1023) (by omega) (by omega)
  rwa [min_eq_left hc, max_eq_right hc] at this

/-- **monotone over the whole phase** -/
theorem sample_mono (a b : ℕ) (hab : a ≤ b) (hb : b < 2 ^ 24) : sampleQ T a ≤ sampleQ T b := by
  rcases (Nat.div_le_div_right hab : a / 2 ^ 14 ≤ b / 2 ^ 14).eq_or_lt with hc | hc
  · -- same cell: monotone in the fraction
    unfold sampleQ; rw [hc]
    refine (interpQ_mono (div_le_div_of_nonneg_right ?_ (by positivity))).1 (rnd_nonneg (sub_nonneg.mpr ?_))
    · exact_mod_cast (show a % 2 ^ 14 ≤ b % 2 ^ 14 by omega)
    · exact table_mono hup _ _ (by omega) (by omega)
  · -- later cell: through the entries in between
    have h1 := (sample_cell hrep hup a (by omega)).2
    rw [min_eq_left (by omega)] at h1
    exact h1.trans ((table_mono hup _ _ hc (by omega)).trans (sample_cell hrep hup b hb).1)

theorem sample_between (a : ℕ) (ha : a < 2 ^ 24) : T 0 ≤ sampleQ T a ∧ sampleQ T a ≤ T 1023 :=
  ⟨(table_mono hup 0 _ (by omega) (by omega)).trans (sample_cell hrep hup a ha).1,
   (sample_cell hrep hup a ha).2.trans (table_mono hup _ 1023 (by omega) le_rfl)⟩

end rising

/-! ### the two generated tables -/

def Aq (i : ℕ) : ℚ := (ofBits (Gen.attackBitsL.getD i 0)).val
def Dq (i : ℕ) : ℚ := (ofBits (Gen.decayBitsL.getD i 0)).val

/-- what the kernel checks for adjacent entries `lo`, `hi`: finite, in this order, at most `D` apart -/
def stepOk (D : ℚ) (lo hi : ℕ) : Bool :=
  (ofBits lo).isFin && (ofBits hi).isFin && decide ((ofBits lo).val ≤ (ofBits hi).val) &&
  decide ((ofBits hi).val - (ofBits lo).val ≤ D)

-- the two height bounds are `C03.DA`, `C03.DD`: the steepest cell of each table, what C03's slope bound rests on
theorem attack_len : Gen.attackBitsL.length = 1024 := by decide +kernel
theorem attack_sorted : allPairs (stepOk (177 / 100000)) Gen.attackBitsL = true := by decide +kernel
theorem attack_first : ofBits (Gen.attackBitsL.getD 0 0) = zero := by decide +kernel
theorem attack_last : ofBits (Gen.attackBitsL.getD 1023 0) = one := by decide +kernel

theorem decay_len : Gen.decayBitsL.length = 1024 := by decide +kernel
theorem decay_sorted : allPairs (fun b0 b1 => stepOk (3976 / 1000000) b1 b0) Gen.decayBitsL = true := by decide +kernel
theorem decay_first : ofBits (Gen.decayBitsL.getD 0 0) = one := by decide +kernel
theorem decay_last : ofBits (Gen.decayBitsL.getD 1023 0) = zero := by decide +kernel

theorem attack_pair (i : ℕ) (hi : i < 1023) :
    (ofBits (Gen.attackBitsL.getD i 0)).isFin = true ∧ Aq i ≤ Aq (i + 1) ∧ Aq (i + 1) - Aq i ≤ 177 / 100000 := by
  have := allPairs_get _ Gen.attackBitsL attack_sorted i (by rw [attack_len]; omega)
  simp only [stepOk, Bool.and_eq_true, decide_eq_true_eq] at this
  exact ⟨this.1.1.1, this.1.2, this.2⟩

theorem decay_pair (i : ℕ) (hi : i < 1023) :
    (ofBits (Gen.decayBitsL.getD i 0)).isFin = true ∧ Dq (i + 1) ≤ Dq i ∧ Dq i - Dq (i + 1) ≤ 3976 / 1000000 := by
  have := allPairs_get _ Gen.decayBitsL decay_sorted i (by rw [decay_len]; omega)
  simp only [stepOk, Bool.and_eq_true, decide_eq_true_eq] at this
  exact ⟨this.1.1.2, this.1.2, this.2⟩

theorem Aq_rep (i : ℕ) : Rep (Aq i) := ofBits_rep _
theorem Dq_rep (i : ℕ) : Rep (Dq i) := ofBits_rep _
theorem Aq_zero : Aq 0 = 0 := by unfold Aq; rw [attack_first]; rfl
theorem Aq_last : Aq 1023 = 1 := by unfold Aq; rw [attack_last]; rfl
theorem Dq_zero : Dq 0 = 1 := by unfold Dq; rw [decay_first]; rfl
theorem Dq_last : Dq 1023 = 0 := by unfold Dq; rw [decay_last]; rfl

theorem attack_mono (a b : ℕ) (hab : a ≤ b) (hb : b < 2 ^ 24) : sampleQ Aq a ≤ sampleQ Aq b :=
  sample_mono Aq_rep (fun i hi => (attack_pair i hi).2.1) a b hab hb

theorem attack_range (a : ℕ) (ha : a < 2 ^ 24) : 0 ≤ sampleQ Aq a ∧ sampleQ Aq a ≤ 1 := by
  have := sample_between Aq_rep (fun i hi => (attack_pair i hi).2.1) a ha
  rwa [Aq_zero, Aq_last] at this

theorem decay_anti (a b : ℕ) (hab : a ≤ b) (hb : b < 2 ^ 24) : sampleQ Dq b ≤ sampleQ Dq a := by
  have := sample_mono (fun i => rep_neg (Dq_rep i)) (fun i hi => neg_le_neg (decay_pair i hi).2.1) a b hab hb
  rwa [sampleQ_neg, sampleQ_neg, neg_le_neg_iff] at this

theorem decay_range (a : ℕ) (ha : a < 2 ^ 24) : 0 ≤ sampleQ Dq a ∧ sampleQ Dq a ≤ 1 := by
  have := sample_between (fun i => rep_neg (Dq_rep i)) (fun i hi => neg_le_neg (decay_pair i hi).2.1) a ha
  rw [sampleQ_neg, Dq_zero, Dq_last] at this
  constructor <;> linarith [this.1, this.2]

end AdsrTab
