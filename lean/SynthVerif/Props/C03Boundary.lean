import SynthVerif.Props.C03
/-!
# C03, part 2 — continuity across every phase boundary

`boundary_step`: a tick that ends a timed phase (attack → decay, decay → sustain, release → rest) changes the output
by at most the steepest slope of the phase that ends times the fraction of that phase one tick covers
(`inc/2^24`, `inc` the increment that tick used), plus the same rounding slack as inside a phase.  The new phase starts
exactly where the old one was heading: the attack table ends at 1.0 and the decay starts at 1.0·(1−S)+S = 1; the decay
table ends at 0.0, i.e. at the sustain level / at rest.  Together with `same_phase_step`, `gate_on_step` and
`gate_off_step` this covers every tick of every history.
-/
namespace C03
open F32 AdsrTab C01

/-- at the last counter position the sample is the last table entry -/
theorem sample_last (T : ℕ → ℚ) (hrep : rnd (T 1023) = T 1023) : sampleQ T (2 ^ 24 - 1) = T 1023 := by
  unfold sampleQ
  have e1 : (2 ^ 24 - 1) / 2 ^ 14 = 1023 := by norm_num
  have e2 : min (1023 + 1) 1023 = 1023 := by norm_num
  rw [e1, e2]
  unfold interpQ
  simp [rnd_zero, hrep]

/-- distance of the sample from the end value of the table, in counter steps to the end of the phase -/
theorem sample_to_end (T : ℕ → ℚ) (D : ℚ) (hD : D < 2 ^ (-7:ℤ)) (hT : ∀ i, i ≤ 1023 → 0 ≤ T i ∧ T i ≤ 1)
    (hcell : ∀ i, i ≤ 1023 → |T (nxt i) - T i| ≤ D) (hrep : rnd (T 1023) = T 1023) (a : ℕ) (h : a < 2 ^ 24) :
    |T 1023 - sampleQ T a| ≤ (1024 * D) * ((2 ^ 24 - 1 - a : ℕ) : ℚ) / 2 ^ 24 + (2 ^ (-23:ℤ) + 2 ^ (-29:ℤ)) := by
  have hk : a + (2 ^ 24 - 1 - a) = 2 ^ 24 - 1 := by omega
  have := sample_step T D hD hT hcell a (2 ^ 24 - 1 - a) (by omega)
  rw [hk, sample_last T hrep] at this
  exact this

/-- **phase boundary**: the tick that ends a timed phase -/
theorem boundary_step (a0 a1 a2 : Adsr) (h0 : AInv a0) (e1 : a0.tick = some a1) (e2 : a1.tick = some a2)
    (ht : a1.state.timed = true) (hs : a2.state ≠ a1.state) :
    |a2.value.val - a1.value.val| ≤
      (if a1.state = .attack then 1024 * DA else 1024 * DD) * (C02.incOf a1 : ℚ) / 2 ^ 24 + slack := by
  obtain ⟨i1, v1⟩ := tick_value a0 a1 h0 e1
  obtain ⟨i2, v2⟩ := tick_value a1 a2 i1 e2
  obtain ⟨f1, f2, f3, _⟩ := tick_fields a1 a2 e2
  obtain ⟨j1, j2⟩ := C17.inc_ok a1 i1.ok
  have hacc := i1.ok.acc
  obtain ⟨a', e', _, _, _, hcase⟩ := C02.tick_timed a1 ht i1.ok.rolled (by omega)
  rw [e2] at e'; simp only [Option.some.injEq] at e'; subst e'
  rw [i1.ok.tb] at hcase
  have hroll : 2 ^ 24 ≤ a1.pa.acc + C02.incOf a1 := by
    by_contra hn
    rw [if_neg hn] at hcase
    exact hs hcase.1
  rw [if_pos hroll] at hcase
  obtain ⟨hnext, hzero⟩ := hcase
  -- the remaining distance is less than the increment
  have hrem : ((2 ^ 24 - 1 - a1.pa.acc : ℕ) : ℚ) ≤ (C02.incOf a1 : ℚ) := by
    have : 2 ^ 24 - 1 - a1.pa.acc ≤ C02.incOf a1 := by omega
    exact_mod_cast this
  have hA := sample_to_end Aq DA DA_small attack_T attack_cell_height (rnd_rep (Aq_rep 1023)) a1.pa.acc hacc
  have hD := sample_to_end Dq DD DD_small decay_T decay_cell_height (rnd_rep (Dq_rep 1023)) a1.pa.acc hacc
  rw [Aq_last] at hA; rw [Dq_last] at hD
  obtain ⟨ra0, ra1⟩ := attack_range a1.pa.acc hacc
  obtain ⟨rd0, rd1⟩ := decay_range a1.pa.acc hacc
  have hDA : (0:ℚ) ≤ 1024 * DA := by unfold DA; norm_num
  have hDD : (0:ℚ) ≤ 1024 * DD := by unfold DD; norm_num
  have mA : 1024 * DA * ((2 ^ 24 - 1 - a1.pa.acc : ℕ) : ℚ) / 2 ^ 24 ≤ 1024 * DA * (C02.incOf a1 : ℚ) / 2 ^ 24 := by
    apply div_le_div_of_nonneg_right (mul_le_mul_of_nonneg_left hrem hDA) (by norm_num)
  have mD : 1024 * DD * ((2 ^ 24 - 1 - a1.pa.acc : ℕ) : ℚ) / 2 ^ 24 ≤ 1024 * DD * (C02.incOf a1 : ℚ) / 2 ^ 24 := by
    apply div_le_div_of_nonneg_right (mul_le_mul_of_nonneg_left hrem hDD) (by norm_num)
  unfold slack
  cases hst : a1.state
  · rw [hst] at ht; simp [AdsrState.timed] at ht
  · -- attack → decay: the decay starts at exactly 1 = blend L 1
    rw [hst] at hnext
    have hn : a2.state = .decay := hnext
    rw [v1, v2, hn, hst, if_pos rfl, hzero, sampleD_zero]
    dsimp only
    rw [blend_top i2.sus.2.1 i2.sus.2.2.1]
    have hb := blend_lipschitz (S := sampleQ Aq a1.pa.acc) (S' := 1) i1.on.2.1 i1.on.2.2.1 ra0 ra1 (by norm_num) (le_refl _)
    rw [blend_top i1.on.2.1 i1.on.2.2.1] at hb
    calc |1 - blend a1.onLevel.val (sampleQ Aq a1.pa.acc)|
        ≤ |1 - sampleQ Aq a1.pa.acc| + (2 ^ (-23:ℤ) + 2 ^ (-24:ℤ)) := hb
      _ ≤ 1024 * DA * (C02.incOf a1 : ℚ) / 2 ^ 24 + (2 ^ (-23:ℤ) + 2 ^ (-29:ℤ) + (2 ^ (-23:ℤ) + 2 ^ (-24:ℤ))) := by
          linarith
  · -- decay → sustain: the decay was heading for blend S 0 = S
    rw [hst] at hnext
    have hn : a2.state = .sustain := hnext
    rw [v1, v2, hn, hst, if_neg (by decide)]
    dsimp only
    rw [f3]
    have hb := blend_lipschitz (S := sampleQ Dq a1.pa.acc) (S' := 0) i1.sus.2.1 i1.sus.2.2.1 rd0 rd1 (le_refl _) (by norm_num)
    rw [blend_bottom i1.sus.2.2.2] at hb
    calc |a1.sustain.val - blend a1.sustain.val (sampleQ Dq a1.pa.acc)|
        ≤ |0 - sampleQ Dq a1.pa.acc| + (2 ^ (-23:ℤ) + 2 ^ (-24:ℤ)) := hb
      _ ≤ 1024 * DD * (C02.incOf a1 : ℚ) / 2 ^ 24 + (2 ^ (-23:ℤ) + 2 ^ (-29:ℤ) + (2 ^ (-23:ℤ) + 2 ^ (-24:ℤ))) := by
          linarith
  · rw [hst] at ht; simp [AdsrState.timed] at ht
  · -- release → rest
    rw [hst] at hnext
    have hn : a2.state = .atRest := hnext
    rw [v1, v2, hn, hst, if_neg (by decide)]
    dsimp only
    have hb := release_lipschitz (S := sampleQ Dq a1.pa.acc) (S' := 0) i1.off.2.1 i1.off.2.2.1 rd0 rd1 (le_refl _) (by norm_num)
    rw [mul_zero, rnd_zero] at hb
    have hnum : (2:ℚ) ^ (-24:ℤ) ≤ 2 ^ (-23:ℤ) + 2 ^ (-24:ℤ) := by norm_num
    calc |0 - rnd (a1.offLevel.val * sampleQ Dq a1.pa.acc)|
        ≤ |0 - sampleQ Dq a1.pa.acc| + 2 ^ (-24:ℤ) := hb
      _ ≤ 1024 * DD * (C02.incOf a1 : ℚ) / 2 ^ 24 + (2 ^ (-23:ℤ) + 2 ^ (-29:ℤ) + (2 ^ (-23:ℤ) + 2 ^ (-24:ℤ))) := by
          linarith

end C03
