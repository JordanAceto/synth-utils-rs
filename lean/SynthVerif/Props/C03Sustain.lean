import SynthVerif.Props.C03Boundary
import SynthVerif.Props.C01Fidelity
/-!
# C03, part 3 — a sustain level changed between two ticks

`sustain_change_step`: two consecutive ticks of the decay phase with a `set_input(Sustain(x))` call in between change the
output by at most the slope bound of `same_phase_step` **plus the change the caller made to the sustain level** (plus the
same rounding slack) — the last clause of the property.  In the sustain phase the output *is* the sustain level
(`C01.sustain_exact`), so there the step equals the caller's change; attack and release do not read the sustain level.
-/
namespace C03
open F32 AdsrTab C01

/-- the blend `fl(fl(fl(1−L)·S) + L)` moves by at most the change of the level `L` (plus rounding) -/
theorem blend_level_lipschitz {L L' S : ℚ} (h0 : 0 ≤ L) (h1 : L ≤ 1) (h0' : 0 ≤ L') (h1' : L' ≤ 1) (s0 : 0 ≤ S) (s1 : S ≤ 1) :
    |blend L' S - blend L S| ≤ |L' - L| + 2 ^ (-22:ℤ) := by
  have n1 := abs_le.mp (C01.Fidelity.blend_near h0 h1 s0 s1)
  have n2 := abs_le.mp (C01.Fidelity.blend_near h0' h1' s0 s1)
  have e : (L' + (1 - L') * S) - (L + (1 - L) * S) = (L' - L) * (1 - S) := by ring
  have hb : |(L' - L) * (1 - S)| ≤ |L' - L| := by
    rw [abs_mul, abs_of_nonneg (by linarith : (0:ℚ) ≤ 1 - S)]
    exact mul_le_of_le_one_right (abs_nonneg _) (by linarith)
  have hb' := abs_le.mp hb
  have e22 : (2:ℚ) ^ (-22:ℤ) = 2 * 2 ^ (-23:ℤ) := by norm_num
  rw [e22]
  generalize (2:ℚ) ^ (-23:ℤ) = u at *
  rw [abs_le]
  constructor <;> linarith

/-- **sustain changed between two ticks of the decay**: slope bound + the caller's change + rounding -/
theorem sustain_change_step (a0 a1 a2 : Adsr) (x : F32) (hx : Rep x.val) (h0 : AInv a0) (e1 : a0.tick = some a1)
    (e2 : (a1.setInput (.sustain (sustainLevel x))).tick = some a2)
    (hd : a1.state = .decay) (hs : a2.state = .decay) :
    |a2.value.val - a1.value.val| ≤
      1024 * DD * ((a2.pa.acc - a1.pa.acc : ℕ) : ℚ) / 2 ^ 24 + |(sustainLevel x).val - a1.sustain.val| +
        (slack + 2 ^ (-22:ℤ)) := by
  obtain ⟨i1, v1⟩ := tick_value a0 a1 h0 e1
  set b := a1.setInput (.sustain (sustainLevel x)) with hb
  have ib : AInv b := ⟨⟨i1.ok.tb, i1.ok.ib, i1.ok.rate, i1.ok.acc, i1.ok.rolled, i1.ok.att, i1.ok.dec, i1.ok.rel⟩,
    sustainLevel_level x hx, i1.on, i1.off, i1.val⟩
  have bst : b.state = .decay := hd
  have bacc : b.pa.acc = a1.pa.acc := rfl
  obtain ⟨i2, v2⟩ := tick_value b a2 ib e2
  have sp := tick_same_phase b a2 ib e2 (by rw [bst]; rfl) (by rw [hs, bst])
  have hk : a1.pa.acc + (a2.pa.acc - a1.pa.acc) = a2.pa.acc := by have := sp.acc; rw [bacc] at this; omega
  have hlt : a1.pa.acc + (a2.pa.acc - a1.pa.acc) < 2 ^ 24 := by rw [hk]; exact i2.ok.acc
  set k := a2.pa.acc - a1.pa.acc with hkdef
  obtain ⟨rd0, rd1⟩ := decay_range a1.pa.acc i1.ok.acc
  obtain ⟨rd0', rd1'⟩ := decay_range a2.pa.acc i2.ok.acc
  have sD := sample_step Dq DD DD_small decay_T decay_cell_height a1.pa.acc k hlt
  rw [hk] at sD
  rw [v1, v2, hs, hd]
  dsimp only
  have hsus : a2.sustain = sustainLevel x := by rw [sp.sus]; rfl
  rw [hsus]
  have lv := sustainLevel_level x hx
  have b1 := blend_lipschitz lv.2.1 lv.2.2.1 rd0 rd1 rd0' rd1'
  have b2 := blend_level_lipschitz i1.sus.2.1 i1.sus.2.2.1 lv.2.1 lv.2.2.1 rd0 rd1
  have t := abs_sub_le (blend (sustainLevel x).val (sampleQ Dq a2.pa.acc)) (blend (sustainLevel x).val (sampleQ Dq a1.pa.acc))
    (blend a1.sustain.val (sampleQ Dq a1.pa.acc))
  unfold slack
  have e : 1024 * DD * (k:ℚ) / 2 ^ 24 + |(sustainLevel x).val - a1.sustain.val| +
      ((2 ^ (-23:ℤ) + 2 ^ (-29:ℤ)) + (2 ^ (-23:ℤ) + 2 ^ (-24:ℤ)) + 2 ^ (-22:ℤ)) =
      (1024 * DD * (k:ℚ) / 2 ^ 24 + (2 ^ (-23:ℤ) + 2 ^ (-29:ℤ)) + (2 ^ (-23:ℤ) + 2 ^ (-24:ℤ))) +
      (|(sustainLevel x).val - a1.sustain.val| + 2 ^ (-22:ℤ)) := by ring
  rw [e]
  generalize (2:ℚ) ^ (-22:ℤ) = t22 at *
  generalize (2:ℚ) ^ (-23:ℤ) = t23 at *
  generalize (2:ℚ) ^ (-24:ℤ) = t24 at *
  generalize (2:ℚ) ^ (-29:ℤ) = t29 at *
  linarith

end C03
