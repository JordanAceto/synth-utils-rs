import SynthVerif.Props.C03
import SynthVerif.Props.ExpLemmas
/-!
# C01, curve fidelity — the envelope follows the documented RC curves

The tables are generated (`non_rust_utils/lookup_table_gen.py`) from
`attack(x) = (1 − e^(−4x/3)) / (1 − e^(−4/3))` (a rising RC curve aiming at 3× full scale, truncated at full scale)
and `decay(x) = (e^(−4x) − e^(−4)) / (1 − e^(−4))` (a falling RC curve over four time constants), `x ∈ [0, 1]`.

* `decay_table_close`, `attack_table_close`: every one of the 1024 binary32 entries of the regenerated tables is within
  `6.2·10^-5` of the curve at `i/1023`.  Proof: the exact curve satisfies an affine recurrence `g(i+1) = ρ·g(i) ∓ c` with
  `ρ = e^(−4/1023)` (resp. `e^(−4/3069)`); the kernel checks the same recurrence on the table entries with rational
  `ρ̂, ĉ` up to `6·10^-8` per step, and `ρ, c` are enclosed by Taylor bounds (`ExpLemmas.lean`); errors add up linearly.
* `sample_fidelity_*`: at every one of the 2^24 counter positions the interpolated sample is within `0.0041` of the curve
  at the phase `p = acc/2^24` — table error + chord error `(4/1023)²` + the stretch `1024/1023` between phase and table
  position (`≤ slope/1024`) + rounding.
* `fidelity`: every output of a tick inside a timed phase is within `0.005` (0.5 % of full scale) of the documented curve
  stretched between the level at which the phase started and the phase's target level.
-/
namespace C01.Fidelity
open F32 AdsrTab C01 Real

/-! ### the recurrences, checked on the tables by the kernel -/

def rhoDq : ℚ := 498048782969 / 500000000000
def cDq : ℚ := 72809119 / 1000000000000
def rhoAq : ℚ := 499348746429 / 500000000000
def cAq : ℚ := 22109283 / 12500000000
def tauq : ℚ := 6 / 100000000

def decRecOk (b0 b1 : ℕ) : Bool := decide (|(ofBits b1).val - (rhoDq * (ofBits b0).val - cDq)| ≤ tauq)
def attRecOk (b0 b1 : ℕ) : Bool := decide (|(ofBits b1).val - (rhoAq * (ofBits b0).val + cAq)| ≤ tauq)

theorem decay_rec_table : allPairs decRecOk Gen.decayBitsL = true := by decide +kernel
theorem attack_rec_table : allPairs attRecOk Gen.attackBitsL = true := by decide +kernel

theorem decay_rec (i : ℕ) (hi : i < 1023) : |Dq (i + 1) - (rhoDq * Dq i - cDq)| ≤ tauq := by
  have := allPairs_get decRecOk Gen.decayBitsL decay_rec_table i (by rw [decay_len]; omega)
  simpa [decRecOk, Dq] using this

theorem attack_rec (i : ℕ) (hi : i < 1023) : |Aq (i + 1) - (rhoAq * Aq i + cAq)| ≤ tauq := by
  have := allPairs_get attRecOk Gen.attackBitsL attack_rec_table i (by rw [attack_len]; omega)
  simpa [attRecOk, Aq] using this

/-! ### the documented curves -/

/-- falling RC curve over four time constants, normalised to run from 1 to 0 -/
noncomputable def GD (x : ℝ) : ℝ := (exp (-(4 * x)) - exp (-4)) / (1 - exp (-4))
/-- rising RC curve aiming at three times full scale, truncated and normalised to run from 0 to 1 -/
noncomputable def GA (x : ℝ) : ℝ := (1 - exp (-(4 * x / 3))) / (1 - exp (-(4 / 3)))

theorem E4_lt_one : exp (-4) < 1 / 50 := by have := Fid.exp_neg4_enc.2; norm_num at this ⊢; linarith
theorem E4_pos : 0 < exp (-4 : ℝ) := exp_pos _
theorem U_lt : exp (-(4 / 3) : ℝ) < 3 / 10 := by have := Fid.exp_neg43_enc.2; norm_num at this ⊢; linarith
theorem U_gt : (1 / 4 : ℝ) < exp (-(4 / 3)) := by have := Fid.exp_neg43_enc.1; norm_num at this ⊢; linarith

theorem GD_zero : GD 0 = 1 := by
  unfold GD; simp only [mul_zero, neg_zero, exp_zero]
  have : (1:ℝ) - exp (-4) ≠ 0 := by have := E4_lt_one; linarith
  field_simp

theorem GA_zero : GA 0 = 0 := by unfold GA; simp

/-- the exact recurrence of the decay curve along the grid `i/1023` -/
theorem GD_rec (i : ℕ) :
    GD ((i + 1 : ℕ) / 1023) = exp (-(4 / 1023)) * GD (i / 1023) -
      (1 - exp (-(4 / 1023))) * (exp (-4) / (1 - exp (-4))) := by
  unfold GD
  have hne : (1:ℝ) - exp (-4) ≠ 0 := by have := E4_lt_one; linarith
  have e : exp (-(4 * (((i + 1 : ℕ) : ℝ) / 1023))) = exp (-(4 / 1023)) * exp (-(4 * ((i : ℝ) / 1023))) := by
    rw [← exp_add]; congr 1; push_cast; ring
  rw [e]; field_simp; ring

theorem GA_rec (i : ℕ) :
    GA ((i + 1 : ℕ) / 1023) = exp (-(4 / 3069)) * GA (i / 1023) +
      (1 - exp (-(4 / 3069))) * (1 / (1 - exp (-(4 / 3)))) := by
  unfold GA
  have hne : (1:ℝ) - exp (-(4 / 3)) ≠ 0 := by have := U_lt; linarith
  have e : exp (-(4 * (((i + 1 : ℕ) : ℝ) / 1023) / 3)) = exp (-(4 / 3069)) * exp (-(4 * ((i : ℝ) / 1023) / 3)) := by
    rw [← exp_add]; congr 1; push_cast; ring
  rw [e]; field_simp; ring

/-- the additive constants of the two recurrences agree with the rationals the kernel used -/
theorem cD_enc : |(cDq : ℝ) - (1 - exp (-(4 / 1023))) * (exp (-4) / (1 - exp (-4)))| ≤ 1 / 10 ^ 11 := by
  obtain ⟨l4, u4⟩ := Fid.exp_neg4_enc
  have hr := abs_le.mp Fid.rhoD_enc
  unfold Fid.rhoD at hr
  set ρ := exp (-(4 / 1023)) with hρ
  set E := exp (-4 : ℝ) with hE
  have h1E : 0 < 1 - E := by have := E4_lt_one; linarith
  -- K = E/(1−E) between its values at the ends of the enclosure
  have K1 : (18315638884 / 10 ^ 12 : ℝ) / (1 - 18315638884 / 10 ^ 12) ≤ E / (1 - E) := by
    rw [div_le_div_iff₀ (by norm_num) h1E]; nlinarith
  have K2 : E / (1 - E) ≤ (18315638895 / 10 ^ 12 : ℝ) / (1 - 18315638895 / 10 ^ 12) := by
    rw [div_le_div_iff₀ h1E (by norm_num)]; nlinarith
  set K := E / (1 - E) with hK
  have K0 : 0 ≤ K := le_trans (by norm_num) K1
  have r1 : (1 - (498048782969 / 500000000000 + 1 / 10 ^ 11) : ℝ) ≤ 1 - ρ := by linarith [hr.2]
  have r2 : 1 - ρ ≤ (1 - (498048782969 / 500000000000 - 1 / 10 ^ 11) : ℝ) := by linarith [hr.1]
  have r0 : 0 ≤ 1 - ρ := le_trans (by norm_num) r1
  have lo : (1 - (498048782969 / 500000000000 + 1 / 10 ^ 11) : ℝ) * ((18315638884 / 10 ^ 12 : ℝ) / (1 - 18315638884 / 10 ^ 12)) ≤ (1 - ρ) * K :=
    mul_le_mul r1 K1 (by norm_num) r0
  have hi : (1 - ρ) * K ≤ (1 - (498048782969 / 500000000000 - 1 / 10 ^ 11) : ℝ) * ((18315638895 / 10 ^ 12 : ℝ) / (1 - 18315638895 / 10 ^ 12)) :=
    mul_le_mul r2 K2 K0 (by norm_num)
  have n1 : (cDq : ℝ) - 1 / 10 ^ 11 ≤ (1 - (498048782969 / 500000000000 + 1 / 10 ^ 11) : ℝ) * ((18315638884 / 10 ^ 12 : ℝ) / (1 - 18315638884 / 10 ^ 12)) := by
    unfold cDq; norm_num
  have n2 : (1 - (498048782969 / 500000000000 - 1 / 10 ^ 11) : ℝ) * ((18315638895 / 10 ^ 12 : ℝ) / (1 - 18315638895 / 10 ^ 12)) ≤ (cDq : ℝ) + 1 / 10 ^ 11 := by
    unfold cDq; norm_num
  rw [abs_le]; constructor <;> linarith

theorem cA_enc : |(cAq : ℝ) - (1 - exp (-(4 / 3069))) * (1 / (1 - exp (-(4 / 3))))| ≤ 1 / 10 ^ 10 := by
  obtain ⟨l, u⟩ := Fid.exp_neg43_enc
  have hr := abs_le.mp Fid.rhoA_enc
  unfold Fid.rhoA at hr
  set σ := exp (-(4 / 3069)) with hσ
  set U := exp (-(4 / 3) : ℝ) with hU
  have h1U : 0 < 1 - U := by have := U_lt; linarith
  have K1 : (1:ℝ) / (1 - 2635971380 / 10 ^ 10) ≤ 1 / (1 - U) := by
    rw [div_le_div_iff₀ (by norm_num) h1U]; linarith
  have K2 : 1 / (1 - U) ≤ (1:ℝ) / (1 - 2635971382 / 10 ^ 10) := by
    rw [div_le_div_iff₀ h1U (by norm_num)]; linarith
  set K := 1 / (1 - U) with hK
  have K0 : 0 ≤ K := le_trans (by norm_num) K1
  have r1 : (1 - (499348746429 / 500000000000 + 1 / 10 ^ 11) : ℝ) ≤ 1 - σ := by linarith [hr.2]
  have r2 : 1 - σ ≤ (1 - (499348746429 / 500000000000 - 1 / 10 ^ 11) : ℝ) := by linarith [hr.1]
  have r0 : 0 ≤ 1 - σ := le_trans (by norm_num) r1
  have lo : (1 - (499348746429 / 500000000000 + 1 / 10 ^ 11) : ℝ) * ((1:ℝ) / (1 - 2635971380 / 10 ^ 10)) ≤ (1 - σ) * K :=
    mul_le_mul r1 K1 (by norm_num) r0
  have hi : (1 - σ) * K ≤ (1 - (499348746429 / 500000000000 - 1 / 10 ^ 11) : ℝ) * ((1:ℝ) / (1 - 2635971382 / 10 ^ 10)) :=
    mul_le_mul r2 K2 K0 (by norm_num)
  have n1 : (cAq : ℝ) - 1 / 10 ^ 10 ≤ (1 - (499348746429 / 500000000000 + 1 / 10 ^ 11) : ℝ) * ((1:ℝ) / (1 - 2635971380 / 10 ^ 10)) := by
    unfold cAq; norm_num
  have n2 : (1 - (499348746429 / 500000000000 - 1 / 10 ^ 11) : ℝ) * ((1:ℝ) / (1 - 2635971382 / 10 ^ 10)) ≤ (cAq : ℝ) + 1 / 10 ^ 10 := by
    unfold cAq; norm_num
  rw [abs_le]; constructor <;> linarith

/-! ### every table entry is on the curve -/

theorem rhoD_cast : ((rhoDq : ℚ) : ℝ) = Fid.rhoD := by unfold rhoDq Fid.rhoD; norm_num
theorem rhoA_cast : ((rhoAq : ℚ) : ℝ) = Fid.rhoA := by unfold rhoAq Fid.rhoA; norm_num


/-- **decay table**: entry `i` is within `i·6.1·10^-8` of the documented curve at `i/1023` -/
theorem decay_table_close (i : ℕ) (hi : i ≤ 1023) : |((Dq i : ℚ) : ℝ) - GD (i / 1023)| ≤ i * (61 / 10 ^ 9) := by
  induction i with
  | zero => simp [Dq_zero, GD_zero]
  | succ i ih =>
    have ih' := ih (by omega)
    have hrec : |((Dq (i + 1) : ℚ) : ℝ) - (Fid.rhoD * ((Dq i : ℚ) : ℝ) - ((cDq : ℚ) : ℝ))| ≤ 6 / 100000000 := by
      have h := decay_rec i (by omega)
      have h' : ((|Dq (i + 1) - (rhoDq * Dq i - cDq)| : ℚ) : ℝ) ≤ ((tauq : ℚ) : ℝ) := by exact_mod_cast h
      rw [Rat.cast_abs] at h'
      push_cast at h'
      rw [rhoD_cast] at h'
      unfold tauq at h'; push_cast at h'
      exact h'
    obtain ⟨_, d0, d1⟩ := decay_entry i (by omega)
    have d0' : (0:ℝ) ≤ ((Dq i : ℚ) : ℝ) := by exact_mod_cast d0
    have d1' : ((Dq i : ℚ) : ℝ) ≤ 1 := by exact_mod_cast d1
    have hρ := abs_le.mp Fid.rhoD_enc
    have hc := abs_le.mp cD_enc
    have ρ0 : 0 ≤ exp (-(4 / 1023) : ℝ) := (exp_pos _).le
    have ρ1 : exp (-(4 / 1023) : ℝ) ≤ 1 := by rw [← exp_zero]; exact exp_le_exp.mpr (by norm_num)
    rw [GD_rec i]
    set ρ := exp (-(4 / 1023) : ℝ) with hρd
    set c := (1 - ρ) * (exp (-4) / (1 - exp (-4))) with hcd
    set d := ((Dq i : ℚ) : ℝ) with hd
    set g := GD (i / 1023) with hg
    have hr := abs_le.mp hrec
    have hi' := abs_le.mp ih'
    have e1 : -(1 / 10 ^ 11) ≤ (Fid.rhoD - ρ) * d ∧ (Fid.rhoD - ρ) * d ≤ 1 / 10 ^ 11 := by
      constructor <;> nlinarith [hρ.1, hρ.2]
    have e2 : -(↑i * (61 / 10 ^ 9)) ≤ ρ * (d - g) ∧ ρ * (d - g) ≤ ↑i * (61 / 10 ^ 9) := by
      have i0 : (0:ℝ) ≤ ↑i * (61 / 10 ^ 9) := by positivity
      constructor <;> nlinarith [hi'.1, hi'.2]
    have split : ((Dq (i + 1) : ℚ) : ℝ) - (ρ * g - c) =
        (((Dq (i + 1) : ℚ) : ℝ) - (Fid.rhoD * d - ((cDq : ℚ) : ℝ))) + (Fid.rhoD - ρ) * d - (((cDq : ℚ) : ℝ) - c) + ρ * (d - g) := by
      ring
    rw [split, abs_le]
    push_cast
    constructor <;> linarith [hr.1, hr.2, hc.1, hc.2, e1.1, e1.2, e2.1, e2.2]

/-- **attack table**: entry `i` is within `i·6.1·10^-8` of the documented curve at `i/1023` -/
theorem attack_table_close (i : ℕ) (hi : i ≤ 1023) : |((Aq i : ℚ) : ℝ) - GA (i / 1023)| ≤ i * (61 / 10 ^ 9) := by
  induction i with
  | zero => simp [Aq_zero, GA_zero]
  | succ i ih =>
    have ih' := ih (by omega)
    have hrec : |((Aq (i + 1) : ℚ) : ℝ) - (Fid.rhoA * ((Aq i : ℚ) : ℝ) + ((cAq : ℚ) : ℝ))| ≤ 6 / 100000000 := by
      have h := attack_rec i (by omega)
      have h' : ((|Aq (i + 1) - (rhoAq * Aq i + cAq)| : ℚ) : ℝ) ≤ ((tauq : ℚ) : ℝ) := by exact_mod_cast h
      rw [Rat.cast_abs] at h'
      push_cast at h'
      rw [rhoA_cast] at h'
      unfold tauq at h'; push_cast at h'
      exact h'
    obtain ⟨_, d0, d1⟩ := attack_entry i (by omega)
    have d0' : (0:ℝ) ≤ ((Aq i : ℚ) : ℝ) := by exact_mod_cast d0
    have d1' : ((Aq i : ℚ) : ℝ) ≤ 1 := by exact_mod_cast d1
    have hρ := abs_le.mp Fid.rhoA_enc
    have hc := abs_le.mp cA_enc
    have ρ0 : 0 ≤ exp (-(4 / 3069) : ℝ) := (exp_pos _).le
    have ρ1 : exp (-(4 / 3069) : ℝ) ≤ 1 := by rw [← exp_zero]; exact exp_le_exp.mpr (by norm_num)
    rw [GA_rec i]
    set ρ := exp (-(4 / 3069) : ℝ) with hρd
    set c := (1 - ρ) * (1 / (1 - exp (-(4 / 3)))) with hcd
    set d := ((Aq i : ℚ) : ℝ) with hd
    set g := GA (i / 1023) with hg
    have hr := abs_le.mp hrec
    have hi' := abs_le.mp ih'
    have e1 : -(1 / 10 ^ 11) ≤ (Fid.rhoA - ρ) * d ∧ (Fid.rhoA - ρ) * d ≤ 1 / 10 ^ 11 := by
      constructor <;> nlinarith [hρ.1, hρ.2]
    have e2 : -(↑i * (61 / 10 ^ 9)) ≤ ρ * (d - g) ∧ ρ * (d - g) ≤ ↑i * (61 / 10 ^ 9) := by
      have i0 : (0:ℝ) ≤ ↑i * (61 / 10 ^ 9) := by positivity
      constructor <;> nlinarith [hi'.1, hi'.2]
    have split : ((Aq (i + 1) : ℚ) : ℝ) - (ρ * g + c) =
        (((Aq (i + 1) : ℚ) : ℝ) - (Fid.rhoA * d + ((cAq : ℚ) : ℝ))) + (Fid.rhoA - ρ) * d + (((cAq : ℚ) : ℝ) - c) + ρ * (d - g) := by
      ring
    rw [split, abs_le]
    push_cast
    constructor <;> linarith [hr.1, hr.2, hc.1, hc.2, e1.1, e1.2, e2.1, e2.2]

/-- uniform form: every entry within `6.3·10^-5` -/
theorem decay_table_eta (i : ℕ) (hi : i ≤ 1023) : |((Dq i : ℚ) : ℝ) - GD (i / 1023)| ≤ 63 / 10 ^ 6 := by
  refine le_trans (decay_table_close i hi) ?_
  have : (i:ℝ) ≤ 1023 := by exact_mod_cast hi
  nlinarith

theorem attack_table_eta (i : ℕ) (hi : i ≤ 1023) : |((Aq i : ℚ) : ℝ) - GA (i / 1023)| ≤ 63 / 10 ^ 6 := by
  refine le_trans (attack_table_close i hi) ?_
  have : (i:ℝ) ≤ 1023 := by exact_mod_cast hi
  nlinarith

/-! ### between the grid points: chord error, and the stretch between phase and table position -/

/-- chord of `exp(−k·)` across one table cell -/
theorem cell_chord (k : ℝ) (k0 : 0 ≤ k) (k4 : k ≤ 4) (i : ℕ) (f : ℝ) (f0 : 0 ≤ f) (f1 : f ≤ 1) :
    |(1 - f) * exp (-(k * ((i:ℝ) / 1023))) + f * exp (-(k * (((i + 1 : ℕ) : ℝ) / 1023))) -
        exp (-(k * (((i:ℝ) + f) / 1023)))| ≤ (k / 1023) ^ 2 := by
  have t0 : 0 ≤ k / 1023 := by positivity
  have t1 : k / 1023 ≤ 1 := by rw [div_le_one (by norm_num)]; linarith
  have hc := Fid.chord_exp t0 t1 f0 f1
  have e1 : exp (-(k * (((i + 1 : ℕ) : ℝ) / 1023))) = exp (-(k * ((i:ℝ) / 1023))) * exp (-(k / 1023)) := by
    rw [← exp_add]; congr 1; push_cast; ring
  have e2 : exp (-(k * (((i:ℝ) + f) / 1023))) = exp (-(k * ((i:ℝ) / 1023))) * exp (-(f * (k / 1023))) := by
    rw [← exp_add]; congr 1; ring
  rw [e1, e2]
  set b := exp (-(k * ((i:ℝ) / 1023))) with hb
  have b0 : 0 ≤ b := (exp_pos _).le
  have b1 : b ≤ 1 := by
    have hnn : 0 ≤ k * ((i:ℝ) / 1023) := by positivity
    rw [hb, ← exp_zero]; exact exp_le_exp.mpr (by linarith)
  have fac : (1 - f) * b + f * (b * exp (-(k / 1023))) - b * exp (-(f * (k / 1023))) =
      b * ((1 - f) + f * exp (-(k / 1023)) - exp (-(f * (k / 1023)))) := by ring
  rw [fac, abs_mul, abs_of_nonneg b0]
  calc b * |(1 - f) + f * exp (-(k / 1023)) - exp (-(f * (k / 1023)))| ≤ 1 * (k / 1023) ^ 2 :=
        mul_le_mul b1 hc (abs_nonneg _) (by norm_num)
    _ = (k / 1023) ^ 2 := one_mul _

theorem GD_lipschitz {x y : ℝ} (hx : 0 ≤ x) (hy : 0 ≤ y) : |GD x - GD y| ≤ 4 * |x - y| * (50 / 49) := by
  unfold GD
  have h1E : 49 / 50 < 1 - exp (-4 : ℝ) := by have := E4_lt_one; linarith
  have hl := Fid.exp_neg_lipschitz (a := 4 * x) (b := 4 * y) (by positivity) (by positivity)
  have e : (exp (-(4 * x)) - exp (-4)) / (1 - exp (-4)) - (exp (-(4 * y)) - exp (-4)) / (1 - exp (-4)) =
      (exp (-(4 * x)) - exp (-(4 * y))) / (1 - exp (-4)) := by ring
  rw [e, abs_div, abs_of_pos (by linarith : (0:ℝ) < 1 - exp (-4))]
  have h4 : |4 * x - 4 * y| = 4 * |x - y| := by
    rw [← mul_sub, abs_mul, abs_of_pos (by norm_num : (0:ℝ) < 4)]
  rw [h4] at hl
  rw [div_le_iff₀ (by linarith)]
  have : 0 ≤ 4 * |x - y| := by positivity
  nlinarith

theorem GA_lipschitz {x y : ℝ} (hx : 0 ≤ x) (hy : 0 ≤ y) : |GA x - GA y| ≤ 4 / 3 * |x - y| * (10 / 7) := by
  unfold GA
  have h1U : 7 / 10 < 1 - exp (-(4 / 3) : ℝ) := by have := U_lt; linarith
  have hl := Fid.exp_neg_lipschitz (a := 4 * x / 3) (b := 4 * y / 3) (by positivity) (by positivity)
  have e : (1 - exp (-(4 * x / 3))) / (1 - exp (-(4 / 3))) - (1 - exp (-(4 * y / 3))) / (1 - exp (-(4 / 3))) =
      (exp (-(4 * y / 3)) - exp (-(4 * x / 3))) / (1 - exp (-(4 / 3))) := by ring
  rw [e, abs_div, abs_of_pos (by linarith : (0:ℝ) < 1 - exp (-(4 / 3))), abs_sub_comm]
  have h4 : |4 * x / 3 - 4 * y / 3| = 4 / 3 * |x - y| := by
    have : 4 * x / 3 - 4 * y / 3 = 4 / 3 * (x - y) := by ring
    rw [this, abs_mul, abs_of_pos (by norm_num : (0:ℝ) < 4 / 3)]
  rw [h4] at hl
  rw [div_le_iff₀ (by linarith)]
  have : 0 ≤ 4 / 3 * |x - y| := by positivity
  nlinarith

/-- generic: a table close to a curve on the grid `i/1023`, interpolated linearly along the 1024 cells of the phase,
is close to the curve along the phase -/
theorem interp_close (t : ℕ → ℝ) (G : ℝ → ℝ) (η χ L : ℝ) (L0 : 0 ≤ L)
    (hη : ∀ i, i ≤ 1023 → |t i - G (i / 1023)| ≤ η)
    (hch : ∀ (i : ℕ) (f : ℝ), i < 1023 → 0 ≤ f → f ≤ 1 →
      |(1 - f) * G (i / 1023) + f * G (((i + 1 : ℕ) : ℝ) / 1023) - G (((i:ℝ) + f) / 1023)| ≤ χ)
    (hlip : ∀ x y : ℝ, 0 ≤ x → 0 ≤ y → |G x - G y| ≤ L * |x - y|)
    (i : ℕ) (hi : i ≤ 1023) (f : ℝ) (f0 : 0 ≤ f) (f1 : f ≤ 1) :
    |t i + (t (C03.nxt i) - t i) * f - G (((i:ℝ) + f) / 1024)| ≤ η + χ + L / 1024 := by
  have i0 : (0:ℝ) ≤ i := by positivity
  have i1 : (i:ℝ) ≤ 1023 := by exact_mod_cast hi
  by_cases h : i < 1023
  · have en : C03.nxt i = i + 1 := by unfold C03.nxt; omega
    rw [en]
    have a := abs_le.mp (hη i hi)
    have b := abs_le.mp (hη (i + 1) (by omega))
    have c := abs_le.mp (hch i f h f0 f1)
    have hx : |((i:ℝ) + f) / 1023 - ((i:ℝ) + f) / 1024| ≤ 1 / 1024 := by
      have il : (i:ℝ) ≤ 1022 := by
        have : i ≤ 1022 := by omega
        exact_mod_cast this
      have e : ((i:ℝ) + f) / 1023 - ((i:ℝ) + f) / 1024 = ((i:ℝ) + f) / (1023 * 1024) := by ring
      rw [e, abs_of_nonneg (by positivity), div_le_div_iff₀ (by norm_num) (by norm_num)]
      nlinarith
    have d := abs_le.mp (le_trans (hlip (((i:ℝ) + f) / 1023) (((i:ℝ) + f) / 1024) (by positivity) (by positivity))
      (mul_le_mul_of_nonneg_left hx L0))
    have e1 : (1 - f) * (t i - G (i / 1023)) ≤ (1 - f) * η := mul_le_mul_of_nonneg_left a.2 (by linarith)
    have e2 : (1 - f) * (-η) ≤ (1 - f) * (t i - G (i / 1023)) := mul_le_mul_of_nonneg_left (by linarith [a.1]) (by linarith)
    have e3 : f * (t (i + 1) - G (((i + 1 : ℕ) : ℝ) / 1023)) ≤ f * η := mul_le_mul_of_nonneg_left b.2 f0
    have e4 : f * (-η) ≤ f * (t (i + 1) - G (((i + 1 : ℕ) : ℝ) / 1023)) := mul_le_mul_of_nonneg_left (by linarith [b.1]) f0
    have eL : L * (1 / 1024) = L / 1024 := by ring
    rw [eL] at d
    rw [abs_le]
    constructor <;> nlinarith
  · have hi' : i = 1023 := by omega
    subst hi'
    have en : C03.nxt 1023 = 1023 := by unfold C03.nxt; norm_num
    rw [en]
    have a := abs_le.mp (hη 1023 (le_refl _))
    have hx : |((1023:ℕ):ℝ) / 1023 - (((1023:ℕ):ℝ) + f) / 1024| ≤ 1 / 1024 := by
      push_cast
      have e : (1023:ℝ) / 1023 - (1023 + f) / 1024 = (1 - f) / 1024 := by ring
      rw [e, abs_of_nonneg (by apply div_nonneg <;> linarith), div_le_div_iff₀ (by norm_num) (by norm_num)]
      linarith
    have d := abs_le.mp (le_trans (hlip (((1023:ℕ):ℝ) / 1023) ((((1023:ℕ):ℝ) + f) / 1024) (by positivity) (by positivity))
      (mul_le_mul_of_nonneg_left hx L0))
    have eL : L * (1 / 1024) = L / 1024 := by ring
    rw [eL] at d
    have χ0 : 0 ≤ χ := le_trans (abs_nonneg _) (hch 0 0 (by norm_num) (le_refl _) (by norm_num))
    rw [abs_le]
    constructor <;> nlinarith

theorem GD_chord (i : ℕ) (f : ℝ) (_ : i < 1023) (f0 : 0 ≤ f) (f1 : f ≤ 1) :
    |(1 - f) * GD (i / 1023) + f * GD (((i + 1 : ℕ) : ℝ) / 1023) - GD (((i:ℝ) + f) / 1023)| ≤ (4 / 1023) ^ 2 * (50 / 49) := by
  have hc := cell_chord 4 (by norm_num) (le_refl _) i f f0 f1
  have h1E : 49 / 50 < 1 - exp (-4 : ℝ) := by have := E4_lt_one; linarith
  unfold GD
  have e : (1 - f) * ((exp (-(4 * ((i:ℝ) / 1023))) - exp (-4)) / (1 - exp (-4))) +
      f * ((exp (-(4 * (((i + 1 : ℕ) : ℝ) / 1023))) - exp (-4)) / (1 - exp (-4))) -
      (exp (-(4 * (((i:ℝ) + f) / 1023))) - exp (-4)) / (1 - exp (-4)) =
      ((1 - f) * exp (-(4 * ((i:ℝ) / 1023))) + f * exp (-(4 * (((i + 1 : ℕ) : ℝ) / 1023))) -
        exp (-(4 * (((i:ℝ) + f) / 1023)))) / (1 - exp (-4)) := by ring
  rw [e, abs_div, abs_of_pos (by linarith : (0:ℝ) < 1 - exp (-4)), div_le_iff₀ (by linarith)]
  have : (0:ℝ) ≤ (4 / 1023) ^ 2 := by positivity
  nlinarith

theorem GA_chord (i : ℕ) (f : ℝ) (_ : i < 1023) (f0 : 0 ≤ f) (f1 : f ≤ 1) :
    |(1 - f) * GA (i / 1023) + f * GA (((i + 1 : ℕ) : ℝ) / 1023) - GA (((i:ℝ) + f) / 1023)| ≤ (4 / 3 / 1023) ^ 2 * (10 / 7) := by
  have hc := cell_chord (4 / 3) (by norm_num) (by norm_num) i f f0 f1
  have h1U : 7 / 10 < 1 - exp (-(4 / 3) : ℝ) := by have := U_lt; linarith
  unfold GA
  have r : ∀ x : ℝ, 4 * x / 3 = 4 / 3 * x := fun x => by ring
  simp only [r]
  have e : (1 - f) * ((1 - exp (-(4 / 3 * ((i:ℝ) / 1023)))) / (1 - exp (-(4 / 3)))) +
      f * ((1 - exp (-(4 / 3 * (((i + 1 : ℕ) : ℝ) / 1023)))) / (1 - exp (-(4 / 3)))) -
      (1 - exp (-(4 / 3 * (((i:ℝ) + f) / 1023)))) / (1 - exp (-(4 / 3))) =
      -(((1 - f) * exp (-(4 / 3 * ((i:ℝ) / 1023))) + f * exp (-(4 / 3 * (((i + 1 : ℕ) : ℝ) / 1023))) -
        exp (-(4 / 3 * (((i:ℝ) + f) / 1023)))) / (1 - exp (-(4 / 3)))) := by ring
  rw [e, abs_neg, abs_div, abs_of_pos (by linarith : (0:ℝ) < 1 - exp (-(4 / 3))), div_le_iff₀ (by linarith)]
  have : (0:ℝ) ≤ (4 / 3 / 1023) ^ 2 := by positivity
  nlinarith

/-- the ideal interpolant, cast to the reals, in the form `interp_close` uses; and the phase of a counter value -/
theorem ideal_cast (T : ℕ → ℚ) (a : ℕ) :
    ((C03.ideal T a : ℚ) : ℝ) = ((T (a / 2 ^ 14) : ℚ) : ℝ) +
      (((T (C03.nxt (a / 2 ^ 14)) : ℚ) : ℝ) - ((T (a / 2 ^ 14) : ℚ) : ℝ)) * (((a % 2 ^ 14 : ℕ) : ℝ) / 2 ^ 14) := by
  unfold C03.ideal idealInterp; push_cast; ring

theorem phase_split (a : ℕ) : ((a:ℝ)) / 2 ^ 24 = (((a / 2 ^ 14 : ℕ) : ℝ) + ((a % 2 ^ 14 : ℕ) : ℝ) / 2 ^ 14) / 1024 := by
  have h := Nat.div_add_mod a (2 ^ 14)
  have : (a:ℝ) = 2 ^ 14 * ((a / 2 ^ 14 : ℕ) : ℝ) + ((a % 2 ^ 14 : ℕ) : ℝ) := by exact_mod_cast h.symm
  rw [this]; field_simp; ring

/-- **decay / release sample**: at every counter position the interpolated sample is within `0.0041` of the documented
falling RC curve at the phase `acc/2^24` -/
theorem sample_fidelity_D (a : ℕ) (ha : a < 2 ^ 24) : |((sampleQ Dq a : ℚ) : ℝ) - GD ((a:ℝ) / 2 ^ 24)| ≤ 41 / 10000 := by
  have n1 := C03.sample_near_ideal Dq C03.DD C03.DD_small C03.decay_T C03.decay_cell_height a ha
  have n1' : |((sampleQ Dq a : ℚ) : ℝ) - ((C03.ideal Dq a : ℚ) : ℝ)| ≤ 2 ^ (-24:ℤ) + 2 ^ (-30:ℤ) := by
    have : ((|sampleQ Dq a - C03.ideal Dq a| : ℚ) : ℝ) ≤ (((2:ℚ) ^ (-24:ℤ) + 2 ^ (-30:ℤ) : ℚ) : ℝ) := by exact_mod_cast n1
    rw [Rat.cast_abs] at this; push_cast at this; exact this
  have hi : a / 2 ^ 14 ≤ 1023 := by omega
  have f0 : (0:ℝ) ≤ ((a % 2 ^ 14 : ℕ) : ℝ) / 2 ^ 14 := by positivity
  have f1 : ((a % 2 ^ 14 : ℕ) : ℝ) / 2 ^ 14 ≤ 1 := by
    rw [div_le_one (by norm_num)]
    have : a % 2 ^ 14 < 2 ^ 14 := Nat.mod_lt _ (by norm_num)
    have : ((a % 2 ^ 14 : ℕ) : ℝ) < 2 ^ 14 := by exact_mod_cast this
    linarith
  have ic := interp_close (fun i => ((Dq i : ℚ) : ℝ)) GD (63 / 10 ^ 6) ((4 / 1023) ^ 2 * (50 / 49)) (4 * (50 / 49))
    (by norm_num) decay_table_eta GD_chord
    (fun x y hx hy => by have := GD_lipschitz hx hy; linarith [this, (by ring : 4 * (50 / 49) * |x - y| = 4 * |x - y| * (50 / 49))])
    (a / 2 ^ 14) hi _ f0 f1
  rw [← ideal_cast Dq a, ← phase_split a] at ic
  have t := abs_sub_le ((sampleQ Dq a : ℚ) : ℝ) ((C03.ideal Dq a : ℚ) : ℝ) (GD ((a:ℝ) / 2 ^ 24))
  have num : (2:ℝ) ^ (-24:ℤ) + 2 ^ (-30:ℤ) + (63 / 10 ^ 6 + (4 / 1023) ^ 2 * (50 / 49) + 4 * (50 / 49) / 1024) ≤ 41 / 10000 := by
    norm_num
  generalize (2:ℝ) ^ (-24:ℤ) + 2 ^ (-30:ℤ) = e at n1' num
  linarith

/-- **attack sample**: within `0.002` of the documented rising RC curve -/
theorem sample_fidelity_A (a : ℕ) (ha : a < 2 ^ 24) : |((sampleQ Aq a : ℚ) : ℝ) - GA ((a:ℝ) / 2 ^ 24)| ≤ 2 / 1000 := by
  have n1 := C03.sample_near_ideal Aq C03.DA C03.DA_small C03.attack_T C03.attack_cell_height a ha
  have n1' : |((sampleQ Aq a : ℚ) : ℝ) - ((C03.ideal Aq a : ℚ) : ℝ)| ≤ 2 ^ (-24:ℤ) + 2 ^ (-30:ℤ) := by
    have : ((|sampleQ Aq a - C03.ideal Aq a| : ℚ) : ℝ) ≤ (((2:ℚ) ^ (-24:ℤ) + 2 ^ (-30:ℤ) : ℚ) : ℝ) := by exact_mod_cast n1
    rw [Rat.cast_abs] at this; push_cast at this; exact this
  have hi : a / 2 ^ 14 ≤ 1023 := by omega
  have f0 : (0:ℝ) ≤ ((a % 2 ^ 14 : ℕ) : ℝ) / 2 ^ 14 := by positivity
  have f1 : ((a % 2 ^ 14 : ℕ) : ℝ) / 2 ^ 14 ≤ 1 := by
    rw [div_le_one (by norm_num)]
    have : a % 2 ^ 14 < 2 ^ 14 := Nat.mod_lt _ (by norm_num)
    have : ((a % 2 ^ 14 : ℕ) : ℝ) < 2 ^ 14 := by exact_mod_cast this
    linarith
  have ic := interp_close (fun i => ((Aq i : ℚ) : ℝ)) GA (63 / 10 ^ 6) ((4 / 3 / 1023) ^ 2 * (10 / 7)) (4 / 3 * (10 / 7))
    (by norm_num) attack_table_eta GA_chord
    (fun x y hx hy => by have := GA_lipschitz hx hy; linarith [this, (by ring : 4 / 3 * (10 / 7) * |x - y| = 4 / 3 * |x - y| * (10 / 7))])
    (a / 2 ^ 14) hi _ f0 f1
  rw [← ideal_cast Aq a, ← phase_split a] at ic
  have t := abs_sub_le ((sampleQ Aq a : ℚ) : ℝ) ((C03.ideal Aq a : ℚ) : ℝ) (GA ((a:ℝ) / 2 ^ 24))
  have num : (2:ℝ) ^ (-24:ℤ) + 2 ^ (-30:ℤ) + (63 / 10 ^ 6 + (4 / 3 / 1023) ^ 2 * (10 / 7) + 4 / 3 * (10 / 7) / 1024) ≤ 2 / 1000 := by
    norm_num
  generalize (2:ℝ) ^ (-24:ℤ) + 2 ^ (-30:ℤ) = e at n1' num
  linarith

/-! ### the envelope output -/

/-- the rounded blend `fl(fl(fl(1−L)·S) + L)` is within `2^-23` of `L + (1−L)·S` -/
theorem blend_near {L S : ℚ} (h0 : 0 ≤ L) (h1 : L ≤ 1) (s0 : 0 ≤ S) (s1 : S ≤ 1) :
    |blend L S - (L + (1 - L) * S)| ≤ 2 ^ (-23:ℤ) := by
  obtain ⟨c0, c1, cL⟩ := coeff_range h0 h1
  unfold blend
  set c := rnd (1 - L) with hc
  have cL' := abs_le.mp cL
  have hsmall : (2:ℚ) ^ (-25:ℤ) ≤ 1 / 2 := by norm_num
  have p0 : 0 ≤ c * S := by positivity
  have p1 : c * S ≤ 1 := by nlinarith
  have e1 : |rnd (c * S) - c * S| ≤ 2 ^ (-25:ℤ) := by
    by_cases hp : c * S = 1
    · rw [hp, rnd_rep rep_one]; simp
    · have := rnd_err (x := c * S) (k := 0) (by norm_num)
        (by rw [abs_of_nonneg p0]; norm_num; exact lt_of_le_of_ne p1 hp)
      simpa using this
  have r0 : 0 ≤ rnd (c * S) := rnd_nonneg p0
  have r1 : rnd (c * S) ≤ c := by
    calc rnd (c * S) ≤ rnd c := rnd_mono (by nlinarith)
      _ = c := by rw [hc]; exact rnd_idem _
  have e2 : |rnd (rnd (c * S) + L) - (rnd (c * S) + L)| ≤ 2 ^ (-24:ℤ) := by
    have hlt : rnd (c * S) + L < 2 := by
      have h2 := cL'.2
      calc rnd (c * S) + L ≤ c + L := by linarith
        _ ≤ 1 + 2 ^ (-25:ℤ) := by linarith
        _ ≤ 1 + 1 / 2 := by linarith
        _ < 2 := by norm_num
    have := rnd_err (x := rnd (c * S) + L) (k := 1) (by norm_num)
      (by rw [abs_of_nonneg (by linarith)]; simpa using hlt)
    simpa using this
  have e3 : |(c - (1 - L)) * S| ≤ 2 ^ (-25:ℤ) := by
    rw [abs_mul, abs_of_nonneg s0]
    have : |c - (1 - L)| ≤ 2 ^ (-25:ℤ) := by
      have : c - (1 - L) = c + L - 1 := by ring
      rw [this]; exact cL
    calc |c - (1 - L)| * S ≤ 2 ^ (-25:ℤ) * 1 := mul_le_mul this s1 s0 (by positivity)
      _ = 2 ^ (-25:ℤ) := mul_one _
  have split : rnd (rnd (c * S) + L) - (L + (1 - L) * S) =
      (rnd (rnd (c * S) + L) - (rnd (c * S) + L)) + (rnd (c * S) - c * S) + (c - (1 - L)) * S := by ring
  rw [split]
  have t1 := abs_add_le ((rnd (rnd (c * S) + L) - (rnd (c * S) + L)) + (rnd (c * S) - c * S)) ((c - (1 - L)) * S)
  have t2 := abs_add_le (rnd (rnd (c * S) + L) - (rnd (c * S) + L)) (rnd (c * S) - c * S)
  have num : (2:ℚ) ^ (-24:ℤ) + 2 ^ (-25:ℤ) + 2 ^ (-25:ℤ) = 2 ^ (-23:ℤ) := by norm_num
  linarith

/-- the documented curve of the phase the envelope is in, stretched between the level at which the phase started and
its target level, at phase position `p` -/
noncomputable def reference (a : Adsr) (p : ℝ) : ℝ :=
  match a.state with
  | .attack => (a.onLevel.val : ℝ) + (1 - (a.onLevel.val : ℝ)) * GA p
  | .decay => (a.sustain.val : ℝ) + (1 - (a.sustain.val : ℝ)) * GD p
  | .release => (a.offLevel.val : ℝ) * GD p
  | .sustain => (a.sustain.val : ℝ)
  | .atRest => 0

/-- **C01, curve fidelity.**  Every output of a `tick` — in any phase, at any of the 2^24 positions, for every start
level and sustain level, after any history — is within 0.5 % of full scale of the documented RC curve stretched
between the level at which the phase started and the phase's target level (exactly on it while sustaining and at
rest). -/
theorem fidelity (a a' : Adsr) (h : AInv a) (e : a.tick = some a') :
    |((a'.value.val : ℚ) : ℝ) - reference a' ((a'.pa.acc : ℝ) / 2 ^ 24)| ≤ 5 / 1000 := by
  obtain ⟨i', v⟩ := tick_value a a' h e
  have hacc := i'.ok.acc
  obtain ⟨ra0, ra1⟩ := attack_range a'.pa.acc hacc
  obtain ⟨rd0, rd1⟩ := decay_range a'.pa.acc hacc
  have fA := abs_le.mp (sample_fidelity_A a'.pa.acc hacc)
  have fD := abs_le.mp (sample_fidelity_D a'.pa.acc hacc)
  have castabs : ∀ (x : ℚ) (b : ℚ), |x| ≤ b → |(x : ℝ)| ≤ (b : ℝ) := by
    intro x b hx
    have : ((|x| : ℚ) : ℝ) ≤ (b : ℝ) := by exact_mod_cast hx
    rwa [Rat.cast_abs] at this
  have e23 : (((2:ℚ) ^ (-23:ℤ) : ℚ) : ℝ) ≤ 1 / 1000000 := by push_cast; norm_num
  unfold reference
  rw [v]
  cases hst : a'.state <;> simp only
  · norm_num
  · -- attack
    have bn := castabs _ _ (blend_near i'.on.2.1 i'.on.2.2.1 ra0 ra1)
    push_cast at bn
    have bn' := abs_le.mp bn
    have L0 : (0:ℝ) ≤ (a'.onLevel.val : ℝ) := by exact_mod_cast i'.on.2.1
    have L1 : ((a'.onLevel.val : ℚ) : ℝ) ≤ 1 := by exact_mod_cast i'.on.2.2.1
    have e23' : (2:ℝ) ^ (-23:ℤ) ≤ 1 / 1000000 := by norm_num
    generalize (2:ℝ) ^ (-23:ℤ) = ε at *
    rw [abs_le]
    constructor <;> nlinarith [fA.1, fA.2, bn'.1, bn'.2]
  · -- decay
    have bn := castabs _ _ (blend_near i'.sus.2.1 i'.sus.2.2.1 rd0 rd1)
    push_cast at bn
    have bn' := abs_le.mp bn
    have L0 : (0:ℝ) ≤ (a'.sustain.val : ℝ) := by exact_mod_cast i'.sus.2.1
    have L1 : ((a'.sustain.val : ℚ) : ℝ) ≤ 1 := by exact_mod_cast i'.sus.2.2.1
    have e23' : (2:ℝ) ^ (-23:ℤ) ≤ 1 / 1000000 := by norm_num
    generalize (2:ℝ) ^ (-23:ℤ) = ε at *
    rw [abs_le]
    constructor <;> nlinarith [fD.1, fD.2, bn'.1, bn'.2]
  · norm_num
  · -- release
    have L0q := i'.off.2.1
    have L1q := i'.off.2.2.1
    have p0 : 0 ≤ a'.offLevel.val * sampleQ Dq a'.pa.acc := by positivity
    have p1 : a'.offLevel.val * sampleQ Dq a'.pa.acc ≤ 1 := by nlinarith
    have er : |rnd (a'.offLevel.val * sampleQ Dq a'.pa.acc) - a'.offLevel.val * sampleQ Dq a'.pa.acc| ≤ 2 ^ (-24:ℤ) := by
      have := rnd_err_le_one (x := a'.offLevel.val * sampleQ Dq a'.pa.acc) (by rw [abs_of_nonneg p0]; exact p1)
      exact this
    have bn := castabs _ _ er
    push_cast at bn
    have bn' := abs_le.mp bn
    have L0 : (0:ℝ) ≤ (a'.offLevel.val : ℝ) := by exact_mod_cast L0q
    have L1 : ((a'.offLevel.val : ℚ) : ℝ) ≤ 1 := by exact_mod_cast L1q
    have e24' : (2:ℝ) ^ (-24:ℤ) ≤ 1 / 1000000 := by norm_num
    generalize (2:ℝ) ^ (-24:ℤ) = ε at *
    rw [abs_le]
    constructor <;> nlinarith [fD.1, fD.2, bn'.1, bn'.2]

end C01.Fidelity
